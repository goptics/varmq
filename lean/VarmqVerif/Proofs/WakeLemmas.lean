/-
  Inductive invariants of the model `Wake` (Model/Wake.lean): the event loop's wake-up protocol
  (as in `Sig`) plus the condition-variable side (owed Broadcasts, w.mx, WaitUntilFinished).

  The clauses about the waiters, (E) and (C), mention neither the status nor the waiters' condition.  A
  goroutine that finds its condition true is covered because a true condition implies `Wk`: slots are in
  use, or a job is queued on a running worker with a free slot, which is dispatchable, (A).  (A) is needed
  at one event only, `wStatus g running`.
  The premise `0 < conc` is part of the clauses, not of the reachability notion: every step from
  conc = 0 to conc > 0 is a `stConc` upwards, which owes a notify(), so the clauses are restored
  at that moment.  `disp ≠ some g` in (E): `step` lets the event-loop goroutine evaluate
  condition() (it never does in the Go code), and for that goroutine the clause is false; (C)
  survives because the first guard of `wPark` rejects Cond.Wait by the event-loop goroutine.

  `DPh.active` of this model is not that of `Sig`: here `exiting` counts as active (the activation ends with
  releaseWaiters(cur.Load()), which is what a waiter needs); what `Sig` calls `active` is `willEval` here.
-/
import VarmqVerif.Model.Wake
import VarmqVerif.Proofs.SumOf
import VarmqVerif.Proofs.Guard

namespace VarmqVerif
namespace Wake

/-- common opening: unfold the step function for one constructor, split all guards, discard the
    error branches, and substitute the successor state -/
macro "wstep_cases" h:ident : tactic =>
  `(tactic| (
    simp only [step] at $h:ident
    repeat' (split at $h:ident)
    all_goals (first | (cases $h:ident; done) | skip)
    all_goals (first | (injection $h:ident with $h:ident; subst $h:ident) | skip)))

theorem reach_run {s s' : State} (hr : Reach s) (es : List Ev) (h : run s es = .ok s') : Reach s' :=
  reach_of_run step run (fun _ => rfl) (fun s e _ => by cases h : step s e <;> simp only [run, h]) Reach.step hr h

/- The successful cases of `fun_cases step s e`, by number:
     5 recvTok   10 dStatus   13 dCur (to sawCur)   14, 15 dCur (parks; loaded 0, not 0)   19 dConc   24 dLen
     27 dCasOk   31 dDeq   36, 37 dRel (to 0, not to 0)   38 enq   40 deqX   44, 45 relX (to 0, not to 0)
     46, 47 stStatus (running, other)   48, 49 stConc (upwards, not)   51, 52 pCur (0, not 0)
     54, 56 notify (nothing owed, pays one)   58, 59 lockMx (woken, idle)   62, 63 unlockMx (returning, idle)
     69 bcast   73, 74, 75 wStatus (running, quiet, other)   79 wLen   82, 83 wCur (after Len, quiet)
     89 wPark   91 wWake -/

def InvA (s : State) : Prop :=
  Dispatchable s → s.tok = true ∨ 0 < s.nOwes ∨ s.dph.willEval = true

def InvB (s : State) : Prop :=
  ∀ c, s.dph = .sawCur c → c ≤ s.cur ∨ s.tok = true ∨ 0 < s.nOwes

def InvAB (s : State) : Prop := InvA s ∧ InvB s

theorem invAB_of_pending {s : State} (h : s.tok = true ∨ 0 < s.nOwes) : InvAB s :=
  ⟨fun _ => h.elim .inl (.inr ∘ .inl), fun _ _ => .inr h⟩

theorem invAB_step {s s' : State} {e : Ev} (hi : InvAB s) (h : step s e = .ok s') : InvAB s' := by
  revert h; fun_cases step s e <;> rintro ⟨⟩
  -- the condition-variable side and pause()'s load write none of the fields of (A), (B)
  all_goals first | exact hi | skip
  -- enq, deqX, relX, stStatus running, stConc upwards, notify: an owed notify() or the token afterwards
  case case38 | case40 | case44 | case45 | case46 | case48 | case54 | case56 =>
    exact invAB_of_pending (by simp [owe, oweBc])
  -- as in Proofs/SigLemmas.lean: a component of the loop condition found false is false in this state, (B) covers
  -- `dConc`; recvTok and processNextJob leave the loop evaluating; the other stores do not make the state dispatchable
  all_goals
    obtain ⟨hA, hB⟩ := hi
    unfold InvA Dispatchable at hA
    unfold InvB at hB
    unfold InvAB InvA InvB Dispatchable
    grind [DPh.willEval, oweBc]

/-- phases of WaitUntilFinished in which the goroutine holds w.mx -/
def WPh.crit : WPh → Bool
  | .locked | .sawStatus _ | .sawLen0 | .willPark | .willReturn => true
  | _ => false

def InvM (s : State) : Prop := ∀ g, (s.wph g).crit = true → s.mx = some g

theorem invM_step {s s' : State} {e : Ev} (hi : InvM s) (h : step s e = .ok s') : InvM s' := by
  revert h; fun_cases step s e <;> rintro ⟨⟩
  -- the event-loop side writes neither `mx` nor `wph`
  all_goals first | exact hi | skip
  all_goals unfold InvM at hi ⊢; grind [WPh.crit, upd]

/-- The event loop or a runner is on its way to `releaseWaiters`: the event loop is in an activation
    (which ends with releaseWaiters(cur.Load())), or will be woken (token, owed notify()), or slots are
    in use (the release that reaches 0 broadcasts). -/
def Wk (s : State) : Prop := s.dph.active = true ∨ s.tok = true ∨ 0 < s.nOwes ∨ 0 < s.cur

/-- A Broadcast that goroutine `g` does not perform itself is on its way. -/
def Cov (s : State) (g : Nat) : Prop := s.owesBc g < s.nOwesBc ∨ Wk s

/-- (E) a goroutine (other than the event loop) inside condition(): once it has decided to park, a Broadcast
    by somebody else is on its way; when it has read status = running, the same, or nothing is queued or
    in use (and it is not going to park) -/
def InvE (s : State) : Prop :=
  0 < s.conc → ∀ g, s.disp ≠ some g →
    (s.wph g = .willPark → Cov s g) ∧ (s.wph g = .sawStatus running → Cov s g ∨ (s.qlen = 0 ∧ s.cur = 0))

def InvC (s : State) : Prop := 0 < s.conc → 0 < s.nParked → 0 < s.nOwesBc ∨ Wk s

theorem invE_of_wk {s : State} (h : Wk s) : InvE s := fun _ _ _ => ⟨fun _ => .inr h, fun _ => .inl (.inr h)⟩
theorem invC_of_wk {s : State} (h : Wk s) : InvC s := fun _ _ => .inr h

/-- The events of the `Sig` side after which `Wk` holds whatever the state was: the event loop stays in its
    activation, or a notify() is owed, or the token is there.  Not among them: `dCur` (the event loop may park),
    `pCur`, and `stStatus`, `stConc` as a whole (the choice is by constructor, although the store of `running` and the
    store of a higher limit owe a notify()); each clause looks at these four itself. -/
def Ev.wakes : Ev → Bool
  | .recvTok _ | .dStatus _ _ | .dConc _ _ | .dLen _ _ | .dCasOk _ | .dDeq _ | .dRel _ _
  | .enq _ | .deqX _ | .relX _ _ | .notify _ _ => true
  | _ => false

theorem step_wk {s s' : State} {e : Ev} (h : step s e = .ok s') (he : e.wakes = true) : Wk s' := by
  revert h he; fun_cases step s e <;> rintro ⟨⟩ he <;>
    first | (cases he; done) | (simp only [Wk, owe, oweBc]; grind [DPh.active, isDisp])

theorem invE_step {s s' : State} {e : Ev} (hA : InvA s) (hM : InvM s) (hle : ∀ g, s.owesBc g ≤ s.nOwesBc)
    (hi : InvE s) (h : step s e = .ok s') : InvE s' := by
  have hw := step_wk h
  revert h hw; fun_cases step s e <;> rintro ⟨⟩ hw
  -- after most events of the `Sig` side `Wk` holds; others write none of the fields the clause reads
  all_goals first | exact invE_of_wk (hw rfl) | exact hi | clear hw
  all_goals unfold InvE Cov Wk at hi ⊢
  -- wStatus g running with a job queued and no slot in use: the state is dispatchable, (A)
  case case73 =>
    clear hM hle
    unfold InvA Dispatchable at hA
    grind [DPh.willEval, DPh.active, upd]
  -- dCur: the event loop parks and owes the Broadcast itself (it is not `g`, and `hle` makes the inequality strict);
  -- pCur (pause() loading cur): a pure read, or one more owed Broadcast, which keeps the inequality strict also for `g` itself
  case case13 | case14 | case15 | case51 =>
    clear hA hM
    (try simp only [oweBc]); grind [DPh.active, upd, isDisp]
  -- bcast: the broadcaster holds w.mx, by (M) it is `g` itself
  case case69 =>
    clear hA hle
    unfold InvM at hM
    grind [WPh.crit, upd]
  -- a goroutine decides to park at `wLen g n` with 0 < n, where the second half of the clause gives the first, or at
  -- `wCur g c` with 0 < c, which is 0 < cur
  all_goals
    clear hA hM hle
    (try simp only [owe]); grind [isQuietStatus, upd]

theorem invC_step {s s' : State} {e : Ev} (hE : InvE s) (hi : InvC s) (h : step s e = .ok s') : InvC s' := by
  have hw := step_wk h
  revert h hw; fun_cases step s e <;> rintro ⟨⟩ hw
  all_goals first | exact invC_of_wk (hw rfl) | exact hi | clear hw
  all_goals unfold InvC Wk at hi ⊢
  -- wPark g: (E) for `g`, which is not the event loop
  case case89 =>
    unfold InvE Cov Wk at hE
    grind [isDisp]
  -- bcast: nobody is parked afterwards; dCur parking: the event loop owes a Broadcast (it loaded 0) or 0 < cur;
  -- stStatus, stConc: the store owes a notify() (`running`, a higher limit), or writes nothing that (C) reads but a
  -- `conc` that is not higher
  all_goals
    clear hE
    (try simp only [owe, oweBc]); grind [DPh.active]

def Ghost (s : State) : Prop := SumOf s.owes s.nOwes ∧ SumOf s.owesBc s.nOwesBc

theorem ghost_step {s s' : State} {e : Ev} (hs : Ghost s) (h : step s e = .ok s') : Ghost s' := by
  obtain ⟨h1, h2⟩ := hs
  revert h; fun_cases step s e <;> rintro ⟨⟩
  -- enq, deqX, relX, stStatus running, stConc upwards owe a notify()
  case case38 | case40 | case45 | case46 | case48 => exact ⟨sumOf_incr h1 _, h2⟩
  -- relX to 0 owes a Broadcast as well; dCur (leaving, 0), dRel to 0, pCur 0 owe a Broadcast
  case case44 => exact ⟨sumOf_incr h1 _, sumOf_incr h2 _⟩
  case case14 | case36 | case51 => exact ⟨h1, sumOf_incr h2 _⟩
  -- notify() and Broadcast pay one
  case case56 g _ _ hz _ => exact ⟨sumOf_decr h1 g (by simpa using hz), h2⟩
  case case69 g _ _ hz _ _ => exact ⟨h1, sumOf_decr h2 g (by simpa using hz)⟩
  all_goals exact ⟨h1, h2⟩

def ParkedList (s : State) : Prop :=
  ∃ l : List Nat, l.Nodup ∧ (∀ g, s.wph g = .parked ↔ g ∈ l) ∧ l.length = s.nParked

/-- Stated on the two fields that `ParkedList` reads (`w`, `n` for the new `wph`, `nParked`), so that it applies
    whatever else the event writes. -/
theorem parkedList_upd {s : State} {g : Nat} {v : WPh} {w : Nat → WPh} {n : Nat}
    (hold : s.wph g ≠ .parked) (hv : v ≠ .parked) (hw : w = upd s.wph g v) (hn : n = s.nParked)
    (hs : ParkedList s) : ∃ l : List Nat, l.Nodup ∧ (∀ x, w x = .parked ↔ x ∈ l) ∧ l.length = n := by
  obtain ⟨l, hnd, hm, hlen⟩ := hs
  refine ⟨l, hnd, fun x => ?_, by omega⟩
  subst hw
  by_cases hx : x = g
  · subst hx
    simp [upd, hv, ← hm, hold]
  · simp [upd, hx, hm x]

theorem parkedList_step {s s' : State} {e : Ev} (hs : ParkedList s) (h : step s e = .ok s') : ParkedList s' := by
  revert h; fun_cases step s e <;> rintro ⟨⟩
  all_goals first | exact hs | skip
  -- Broadcast: nobody is parked afterwards
  case case69 =>
    refine ⟨[], by simp, ?_, rfl⟩
    intro x
    by_cases hx : s.wph x = .parked <;> simp [hx]
  -- Cond.Wait: one more
  case case89 g _ _ hp =>
    have hp : s.wph g = .willPark := by simpa using hp
    obtain ⟨l, hnd, hm, hlen⟩ := hs
    have hg : g ∉ l := fun hg => by have := (hm g).mpr hg; simp [hp] at this
    refine ⟨g :: l, List.nodup_cons.mpr ⟨hg, hnd⟩, ?_, by simp [hlen]⟩
    intro x
    by_cases hx : x = g
    · subst hx; simp [upd]
    · simp [upd, hx, hm x]
  -- one goroutine moves between two phases other than `parked`
  all_goals refine parkedList_upd (s := s) ?_ ?_ rfl rfl hs <;> grind

structure Inv (s : State) : Prop where
  ab : InvAB s
  m : InvM s
  e : InvE s
  c : InvC s
  gh : Ghost s
  pl : ParkedList s

theorem inv_init (c : Nat) : Inv (init c) where
  ab := ⟨fun hd => by simp [Dispatchable, init, running] at hd, fun _ h => by simp [init] at h⟩
  m _ h := by simp [init, WPh.crit] at h
  e _ _ _ := by simp [init]
  c _ h := by simp [init] at h
  gh := ⟨sumOf_zero, sumOf_zero⟩
  pl := ⟨[], by simp, by simp [init], by simp [init]⟩

theorem inv_step {s s' : State} {e : Ev} (hi : Inv s) (h : step s e = .ok s') : Inv s' :=
  have hle := sumOf_le hi.gh.2
  ⟨invAB_step hi.ab h, invM_step hi.m h, invE_step hi.ab.1 hi.m hle hi.e h, invC_step hi.e hi.c h, ghost_step hi.gh h,
    parkedList_step hi.pl h⟩

theorem reach_inv {s : State} (hr : Reach s) : Inv s :=
  hr.rec inv_init fun _ _ h ih => inv_step ih h

end Wake
end VarmqVerif
