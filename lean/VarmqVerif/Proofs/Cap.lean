/-
  Theorems about the model `Cap` (Model/Cap.lean), for every reachable state.  The order matters:
  `release_before_push_rejected` (a pool goroutine that frees its slot before it is done with its node is not an
  execution of this model — with that order the bound fails, seeded change C18-a).
-/
import VarmqVerif.Model.Cap
import VarmqVerif.Proofs.Guard

namespace VarmqVerif
namespace Cap

structure J (s : State) : Prop where
  slots : s.cur = s.hold + s.busy + s.rel
  cap : s.cur ≤ s.maxLim
  workers : s.idle + s.busy ≤ s.maxLim

theorem J_init : J init := ⟨rfl, Nat.le_refl _, Nat.le_refl _⟩

theorem J_step {s s' : State} (e : Ev) (hJ : J s) : step s e = .ok s' → J s' := by
  obtain ⟨h1, h2, h3⟩ := hJ
  fun_cases step s e <;> rintro ⟨⟩
  -- Every event keeps each conjunct by its own guards, except `workers` at `create`: the dispatcher holds a slot and found
  -- the idle list empty, so idle + busy + 1 = busy + 1 ≤ busy + hold ≤ cur ≤ maxLim, by `slots` and `cap`.
  all_goals try simp only [alive, bne_iff_ne, beq_iff_eq, Bool.or_eq_true] at *
  all_goals constructor <;> simp only <;> omega

theorem inv_reach {s : State} (h : Reach s) : J s := by
  induction h with
  | init => exact J_init
  | step e _ hs ih => exact J_step e ih hs

/-- C18, first clause: "the worker never keeps more worker goroutines than the largest concurrency configured" -/
theorem workers_le_limit {s : State} (h : Reach s) : alive s ≤ s.maxLim := (inv_reach h).workers

theorem slots_exact {s : State} (h : Reach s) : s.cur = s.hold + s.busy + s.rel := (inv_reach h).slots

theorem slots_le_limit {s : State} (h : Reach s) : s.cur ≤ s.maxLim := (inv_reach h).cap

theorem create_only_below_limit {s s' : State} (h : Reach s) (hc : step s .create = .ok s') : alive s < s.maxLim := by
  have hJ := (J_step .create (inv_reach h) hc).workers
  simp [step] at hc
  obtain ⟨_, _, rfl⟩ := hc
  simp only [alive] at *
  omega

theorem reach_run {s s' : State} {es : List Ev} (h : Reach s) (hrun : run s es = .ok s') : Reach s' :=
  reach_of_run step run (fun _ => rfl) (fun s e _ => by cases h : step s e <;> simp only [run, h]) Reach.step h hrun

def okState : Except String State → Option State
  | .ok s => some s
  | .error _ => none

/-- limit 2: two jobs run on two workers, both come back, both stay idle: 2 workers, never 3 -/
example : (okState (run init [.lim 2, .start, .reserve, .take, .reserve, .create, .push, .release, .push, .release])).map
    (fun s => (alive s, s.cur, s.maxLim)) = some (2, 0, 2) := by decide

/-- a third worker cannot be created under limit 2 -/
example : (okState (run init [.lim 2, .start, .reserve, .take, .reserve, .create, .reserve])).isNone = true := by decide

/-- the pool goroutine gives its node back first and its slot afterwards; the other order is not an execution of this
    model -/
theorem release_before_push_rejected :
    (okState (run init [.lim 1, .start, .reserve, .take, .release])).isNone = true := by decide

/-- … and with the other order the bound would fail: if the slot were free while the worker is still out, the dispatcher
    would find the idle list empty and create a second worker under limit 1 (shown on the counts) -/
example : let s : State := { maxLim := 1, cur := 0, hold := 0, busy := 1, rel := 0, idle := 0 }
    (okState (run s [.reserve, .create])).map alive = some 2 := by decide

example : ∃ s, Reach s ∧ alive s = 2 ∧ s.maxLim = 2 :=
  ⟨_, reach_run Reach.init (es := [.lim 2, .start, .reserve, .take, .reserve, .create]) rfl, rfl, rfl⟩

#print axioms workers_le_limit
#print axioms slots_exact
#print axioms create_only_below_limit
#print axioms release_before_push_rejected

end Cap
end VarmqVerif
