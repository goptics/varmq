/-
  A skipped entry (model `Disp`: `deq j` followed by `done j` without an `enter j` — what processNextJob does with a stored
  entry it cannot decode, or with a job that was cancelled while pending) costs no capacity and disturbs nobody.
-/
import VarmqVerif.Proofs.Disp

namespace VarmqVerif
namespace Disp

theorem skip_restores_inflight {s s1 s2 : State} {j : Nat} (h1 : step s (.deq j) = .ok s1)
    (h2 : step s1 (.done j) = .ok s2) : inflight s2 = inflight s := by
  obtain ⟨hj, _, rfl⟩ := deq_ok h1
  obtain ⟨_, _, rfl⟩ := done_ok h2
  simp only [inflight, List.filter_append]
  rw [List.filter_congr (q := fun i => !s.gone.contains i) fun a ha => by
    simp [show a ≠ j from fun e => hj (e ▸ ha)]]
  simp

theorem skip_keeps_order {s s1 s2 : State} {j : Nat} (h1 : step s (.deq j) = .ok s1)
    (h2 : step s1 (.done j) = .ok s2) : s2.deqd = s.deqd ++ [j] ∧ s2.entered = s.entered ∧ s2.maxLim = s.maxLim := by
  obtain ⟨_, _, rfl⟩ := deq_ok h1
  obtain ⟨_, _, rfl⟩ := done_ok h2
  exact ⟨rfl, rfl, rfl⟩

theorem skip_never_runs {s1 s2 : State} {j : Nat} (h2 : step s1 (.done j) = .ok s2) :
    ∀ s3, step s2 (.enter j) ≠ .ok s3 := by
  obtain ⟨_, _, rfl⟩ := done_ok h2
  intro s3 h
  exact (enter_ok h).2.2.1 (by simp)

theorem next_deq_after_skip {s s1 s2 : State} {j k : Nat} (h1 : step s (.deq j) = .ok s1)
    (h2 : step s1 (.done j) = .ok s2) (hk : k ∉ s.deqd) (hkj : k ≠ j) :
    ∃ s3, step s2 (.deq k) = .ok s3 := by
  obtain ⟨hd, _, hml⟩ := skip_keeps_order h1 h2
  have hcap := (deq_ok h1).2.1
  rw [← skip_restores_inflight h1 h2, ← hml] at hcap
  refine ⟨{ s2 with deqd := s2.deqd ++ [k] }, ?_⟩
  simp [step, hd, hk, hkj, Nat.not_le.mpr hcap]

-- limit 1: a bad entry is skipped, the next one runs
example : (stateOf (run init [.lim 1, .deq 7, .done 7, .deq 8, .enter 8])).map (·.entered) = some [8] := by decide
example : accepted (run init [.lim 1, .deq 7, .done 7, .enter 7]) = false := by decide

#print axioms skip_restores_inflight
#print axioms skip_keeps_order
#print axioms skip_never_runs
#print axioms next_deq_after_skip

end Disp
end VarmqVerif
