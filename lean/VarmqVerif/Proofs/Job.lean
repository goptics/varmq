/-
  Theorems about the model `Job` (VarmqVerif/Model/Job.lean): the per-job protocol of job.go /
  group_job.go / internal/helpers/{wg_counter,response}.go on the repaired tree.
  All statements are about every reachable state (`Reach s` is the only standing hypothesis):
  unbounded numbers of jobs, batches, channels, goroutines and events.

  The inductive invariant is `Inv` (layers `InvJ`, `InvD`, `InvB`, `InvW`, `InvC` of JobInv.lean plus
  `crashed = false`); `inv_of_reach : Reach s → Inv s`, and the named theorems read their conclusions off it.
  `status_monotone` (C16) leaves out the jobs parsed from an envelope that says "Finished":
  `status_monotone_parsedFinished_real` shows that the excluded case is a real behaviour of the code.
-/
import VarmqVerif.Proofs.JobInv
import VarmqVerif.Proofs.Guard

namespace VarmqVerif
namespace Job

structure Inv (s : State) : Prop where
  J : InvJ s
  D : InvD s
  B : InvB s
  W : InvW s
  C : InvC s
  ok : s.crashed = false

theorem subset_of_nodup_subset_length {α} {l₁ l₂ : List α} (hn : l₁.Nodup) (hs : l₁ ⊆ l₂)
    (hl : l₂.length ≤ l₁.length) : l₂ ⊆ l₁ := fun x hx => Classical.byContradiction fun hnx => by
  have := (List.nodup_cons.mpr ⟨hnx, hn⟩).length_le_of_subset (List.cons_subset.mpr ⟨hx, hs⟩)
  simp only [List.length_cons] at this
  omega

/-- At `count = 0`, `doneItems` is a duplicate-free part of `items` of length `size ≥ |items|`. -/
theorem Inv.all_done {s : State} (I : Inv s) {b : Nat} (h0 : (s.batches b).count = 0) :
    ∀ j ∈ (s.batches b).items, j ∈ (s.batches b).doneItems := by
  have B := I.B.batch b
  exact subset_of_nodup_subset_length B.done_nodup (fun x hx => (I.B.done_mem b x hx).1)
    (by have := B.items_len; have := B.count_exact; omega)

theorem Inv.items_full {s : State} (I : Inv s) {b : Nat} (h0 : (s.batches b).count = 0) :
    (s.batches b).items.length = (s.batches b).size := by
  have B := I.B.batch b
  have := B.done_nodup.length_le_of_subset fun x hx => (I.B.done_mem b x hx).1
  have := B.items_len; have := B.count_exact
  omega

theorem Inv.closed_of_done {s : State} (I : Inv s) {j : Nat} (h : (s.jobs j).dones = 1) : (s.jobs j).st = closed :=
  Decidable.byContradiction fun hne => by
    have := (I.J.job j).closes0 hne
    have := I.D.dones_le j
    omega

theorem Inv.stream_closed {s : State} (I : Inv s) {c j : Nat} (hc : (s.chans c).closed = true)
    (hj : (s.jobs j).chan = some c) : (s.jobs j).st = closed := by
  cases hb : (s.jobs j).batch with
  | none => exact I.closed_of_done (I.C.sj_closed j c hb hj hc)
  | some b =>
    obtain ⟨_, _, hch, hmem⟩ := I.B.jb j b hb
    have h0 := I.C.sb_closed b c (by rw [← hch]; exact hj) hc
    exact (I.B.done_mem b j (I.all_done h0 j hmem)).2.1

/-- From a state that satisfies the invariant none of the four branches of `step` that set `crashed` is taken (three
kinds of panic: a negative wait group counter, close of a closed channel, send on a closed channel). -/
theorem Inv.step_ok {s s' : State} {e : Ev} (I : Inv s) (h : Job.step s e = .ok s') :
    s'.crashed = false := by
  revert h
  fun_cases Job.step s e <;> rintro ⟨⟩
  case case56 g j js ho hb _ hw =>
    -- wgDone with counter 0: the goroutine owes the Done of an existing single job, so `wg = 1`
    have := InvD.wg_of_owes I.J I.D (by simpa using ho) (by simpa [js] using hb)
    have : (s.jobs j).wg = 0 := by simpa [js] using hw
    omega
  case case71 g b bs ho hw =>
    -- wgDoneB with counter 0: `g` is among those the wait group still counts
    have := I.W.wg_pos (by simpa using ho)
    have : (s.batches b).wg = 0 := by simpa [bs] using hw
    omega
  case case74 g c cs ho hc =>
    -- close of a closed channel: nobody owes the close of a closed channel
    exact absurd (by simpa using ho) (I.C.closed_free g c hc)
  case case78 g c cs j hr hch hst hc =>
    -- send on a closed channel: the sender's job would be closed, but it is processing
    have h1 : (s.jobs j).st = processing := by simpa using hst
    rw [I.stream_closed hc (by simpa using hch)] at h1
    exact absurd h1 (by decide)
  all_goals exact I.ok

theorem Inv.step {s s' : State} {e : Ev} (I : Inv s) (h : step s e = .ok s') : Inv s' :=
  have hok := I.step_ok h
  ⟨I.J.step h, I.D.step I.J h, I.B.step I.J I.D h, I.W.step I.D I.B h hok, I.C.step I.D h hok, hok⟩

theorem Inv.init : Inv init :=
  ⟨InvJ.init, InvD.init, InvB.init, InvW.init, InvC.init, rfl⟩

theorem inv_of_reach {s : State} (h : Reach s) : Inv s := by
  induction h with
  | init => exact Inv.init
  | step e _ hs ih => exact ih.step hs

/-! ## Claim, run, close: at most once (C01, C10) -/

theorem claims_le_one {s : State} {j : Nat} (h : Reach s) : (s.jobs j).claims ≤ 1 :=
  ((inv_of_reach h).J.job j).claims_le

/-- C01: the worker function of a job is entered at most once. -/
theorem runs_le_one {s : State} {j : Nat} (h : Reach s) : (s.jobs j).entered ≤ 1 := by
  have := ((inv_of_reach h).J.job j).claims_le
  have := ((inv_of_reach h).J.job j).ent_le
  omega

/-- C01/C10: a job whose Close() succeeded before it started never runs, in any later state
(the statement is about every reachable state in which the flag is set). -/
theorem cancelled_never_runs {s : State} {j : Nat} (h : Reach s) (hc : (s.jobs j).cancelled = true) :
    (s.jobs j).entered = 0 := by
  have := (((inv_of_reach h).J.job j).canc hc).2
  have := ((inv_of_reach h).J.job j).ent_le
  omega

/-- C10: at most one tryClose CAS succeeds. -/
theorem closes_le_one {s : State} {j : Nat} (h : Reach s) : (s.jobs j).closes ≤ 1 :=
  ((inv_of_reach h).J.job j).closes_le

/-- C05/C08/C10: no negative WaitGroup counter, no close of a closed channel, no send on a closed
channel. -/
theorem no_crash {s : State} (h : Reach s) : s.crashed = false := (inv_of_reach h).ok

/-! ## The status word (C16) -/

theorem status_le_closed {s : State} {j : Nat} (h : Reach s) : (s.jobs j).st ≤ closed :=
  ((inv_of_reach h).J.job j).st_le

theorem status_head {s : State} {j : Nat} (h : Reach s) : (s.jobs j).hist.head? = some (s.jobs j).st :=
  ((inv_of_reach h).J.job j).head

/-- C16: the status word only moves forward (`hist` is newest first). Holds for every job that
was not created by parseToJob from an envelope whose status is "Finished" (no such job has a
user-visible handle). -/
theorem status_monotone {s : State} {j : Nat} (h : Reach s) (hp : (s.jobs j).parsedFinished = false) :
    List.Pairwise (· ≥ ·) (s.jobs j).hist :=
  ((inv_of_reach h).J.mono j hp).2.1

theorem status_max {s : State} {j : Nat} (h : Reach s) (hp : (s.jobs j).parsedFinished = false) :
    ∀ v ∈ (s.jobs j).hist, v ≤ (s.jobs j).st :=
  ((inv_of_reach h).J.mono j hp).1

/-- C10/C16: Closed is final, so a second Close() loads Closed and returns ErrJobAlreadyClosed. -/
theorem closed_is_final {s s' : State} {e : Ev} {j : Nat} (h : Reach s) (hc : (s.jobs j).st = closed)
    (hs : step s e = .ok s') : (s'.jobs j).st = closed := by
  have I := (inv_of_reach h).J.job j
  clear h   -- less for `grind` to look at
  revert hs
  fun_cases Job.step s e <;> rintro ⟨⟩ <;> first | exact hc | skip
  -- newJob, newItem create a job that does not exist; a closed job exists
  case case3 | case4 | case12 => have := I.nex; grind [upd]
  -- stParsed: only on a job whose history is `[created]`
  case case19 => have := I.head; grind [upd, setSt]
  -- every other event that writes the status of a job reads a status other than `closed` first; the rest write other fields
  all_goals grind [upd, setSt]

/-- C16/C10: while the worker function is executing the status is Processing (so a Close() on an
executing job reads Processing and fails with ErrJobProcessing). -/
theorem processing_while_running {s : State} {j : Nat} (h : Reach s)
    (hr : (s.jobs j).exited < (s.jobs j).entered) : (s.jobs j).st = processing :=
  Decidable.byContradiction fun hne => by
    have := (((inv_of_reach h).J.job j).idle hne).2
    omega

theorem closed_not_running {s : State} {j : Nat} (h : Reach s) (hc : (s.jobs j).st = closed) :
    (s.jobs j).exited = (s.jobs j).entered :=
  (((inv_of_reach h).J.job j).idle (by rw [hc]; decide)).2

/-- C05: `Wait()` on a single job returns only when the job is closed (it finished or was
cancelled) and its worker function is not executing. -/
theorem wait_returns_closed {s s' : State} {g j : Nat} (h : Reach s)
    (hs : step s (.wgWait g j) = .ok s') (hb : (s.jobs j).batch = none) :
    (s.jobs j).st = closed ∧ (s.jobs j).exited = (s.jobs j).entered := by
  have I := inv_of_reach h
  simp [step] at hs
  -- the wait group counter of an existing single job is 0 only after its Done
  have hst := I.closed_of_done (j := j) (by have := I.D.wg_single j hs.1 hb; omega)
  exact ⟨hst, closed_not_running h hst⟩

/-! ## Batches (C05, C08) -/

/-- C08: `NumPending()` is exactly the number of items that have not performed their Done.
(Holds for every `b`; a batch that does not exist has `0 + 0 = 0`.) -/
theorem batch_count_exact' {s : State} {b : Nat} (h : Reach s) :
    (s.batches b).count + (s.batches b).doneItems.length = (s.batches b).size :=
  ((inv_of_reach h).B.batch b).count_exact

theorem batch_count_exact {s : State} {b : Nat} (h : Reach s) (_ : (s.batches b).exist = true) :
    (s.batches b).count + (s.batches b).doneItems.length = (s.batches b).size :=
  batch_count_exact' h

theorem batch_done_items {s : State} {b : Nat} (h : Reach s) :
    (s.batches b).doneItems.Nodup ∧ (s.batches b).items.Nodup ∧
    (s.batches b).items.length ≤ (s.batches b).size ∧
    ∀ j ∈ (s.batches b).doneItems, j ∈ (s.batches b).items ∧ (s.jobs j).st = closed :=
  have I := inv_of_reach h
  ⟨(I.B.batch b).done_nodup, (I.B.batch b).items_nodup, (I.B.batch b).items_len,
   fun j hj => ⟨(I.B.done_mem b j hj).1, (I.B.done_mem b j hj).2.1⟩⟩

/-- C05: the batch wait group is ahead of `count` by the number of goroutines that are between the count CAS of
WgCounter.Done and its `wg.Done()`. -/
theorem batch_wg_exact {s : State} {b : Nat} (h : Reach s) :
    ∃ L : List Nat, L.Nodup ∧ (∀ g, g ∈ L ↔ (s.loc g).owesWg = some b) ∧
      (s.batches b).wg = (s.batches b).count + L.length :=
  (inv_of_reach h).W.wg_list b

theorem batch_wg_le {s : State} {b : Nat} (h : Reach s) : (s.batches b).count ≤ (s.batches b).wg := by
  obtain ⟨L, _, _, hw⟩ := batch_wg_exact (b := b) h
  omega

theorem batch_wg_le_list {s : State} {b : Nat} {L : List Nat} (h : Reach s) (hn : L.Nodup)
    (ho : ∀ g ∈ L, (s.loc g).owesWg = some b) :
    (s.batches b).count + L.length ≤ (s.batches b).wg := by
  obtain ⟨L', _, hm, hw⟩ := batch_wg_exact (b := b) h
  have := hn.length_le_of_subset fun g hg => (hm g).2 (ho g hg)
  omega

theorem batch_wg_eq {s : State} {b : Nat} (h : Reach s) (hno : ∀ g, (s.loc g).owesWg ≠ some b) :
    (s.batches b).wg = (s.batches b).count := by
  obtain ⟨L, _, hm, hw⟩ := batch_wg_exact (b := b) h
  cases L with
  | nil => simpa using hw
  | cons g L => exact absurd ((hm g).1 (by simp)) (hno g)

/-- C05/C08: the batch `Wait()` returns only when all `size` items have been created, every one
of them is closed, and `NumPending()` is 0. -/
theorem batch_wait_all_closed {s s' : State} {g b : Nat} (h : Reach s)
    (hs : step s (.wgWaitB g b) = .ok s') :
    (∀ j ∈ (s.batches b).items, (s.jobs j).st = closed) ∧
    (s.batches b).items.length = (s.batches b).size ∧ (s.batches b).count = 0 := by
  have I := inv_of_reach h
  simp [step] at hs
  have h0 : (s.batches b).count = 0 := by have := batch_wg_le (b := b) h; omega
  exact ⟨fun j hj => (I.B.done_mem b j (I.all_done h0 j hj)).2.1, I.items_full h0, h0⟩

/-! ## Response channels (C08) -/

/-- C08: a response channel is closed only after every job that uses it is closed … -/
theorem stream_closed_all_closed {s : State} {c : Nat} (h : Reach s) (hc : (s.chans c).closed = true) :
    ∀ j, (s.jobs j).chan = some c → (s.jobs j).st = closed :=
  fun _ hj => (inv_of_reach h).stream_closed hc hj

/-- … nobody is left who would close it a second time … -/
theorem stream_closed_no_closer {s : State} {c : Nat} (h : Reach s) (hc : (s.chans c).closed = true) :
    ∀ g, (s.loc g).owesClose ≠ some c :=
  fun g => (inv_of_reach h).C.closed_free g c hc

/-- … at any time at most one goroutine is about to close it … -/
theorem stream_closer_unique {s : State} {c g g' : Nat} (h : Reach s)
    (h1 : (s.loc g).owesClose = some c) (h2 : (s.loc g').owesClose = some c) : g = g' :=
  (inv_of_reach h).C.close_uniq g g' c h1 h2

/-- … and nobody can send on it any more: a sender is inside the worker function of a job in
status Processing. -/
theorem stream_closed_no_sender {s : State} {c g j : Nat} (h : Reach s) (hc : (s.chans c).closed = true)
    (hr : (s.loc g).running = some j) : (s.jobs j).chan ≠ some c := fun hj =>
  absurd ((stream_closed_all_closed h hc j hj).symm.trans ((inv_of_reach h).J.run g j hr).1) (by decide)

/-- `wg.Done()` / `WgCounter.Done()` happens at most once per job: one goroutine owes it, and only while `dones = 0`. -/
theorem done_owner_unique {s : State} {j g g' : Nat} (h : Reach s)
    (h1 : (s.loc g).owesDone = some j) (h2 : (s.loc g').owesDone = some j) :
    g = g' ∧ (s.jobs j).st = closed ∧ (s.jobs j).dones = 0 :=
  have I := inv_of_reach h
  ⟨I.D.owes_uniq g g' j h1 h2, (I.D.owes g j h1).1, (I.D.owes g j h1).2.2⟩

/-- Acknowledge is called only by the goroutine that closed the job, on a Closed job whose worker
    function is not running -/
theorem ack_by_closer {s s' : State} {g j : Nat} (h : Reach s) (hst : step s (.ack g j) = .ok s') :
    (s.jobs j).st = closed ∧ (s.jobs j).exited = (s.jobs j).entered ∧ (s.jobs j).acks = 0 := by
  simp [step] at hst
  have hd := (done_owner_unique h hst.1 hst.1).2
  exact ⟨hd.1, closed_not_running h hd.1, hst.2.1⟩

theorem dones_le_one {s : State} {j : Nat} (h : Reach s) : (s.jobs j).dones ≤ 1 := by
  have := (inv_of_reach h).D.dones_le j
  have := ((inv_of_reach h).J.job j).closes_le
  omega

/-! ## Non-vacuity: concrete runs -/

def finalOf (evs : List Ev) : State :=
  match run init evs with
  | .ok s => s
  | .error _ => init

def accepted (evs : List Ev) : Bool :=
  match run init evs with
  | .ok _ => true
  | .error _ => false

theorem reach_run {s s' : State} {evs : List Ev} (hr : Reach s) (h : run s evs = .ok s') : Reach s' :=
  reach_of_run step run (fun _ => rfl) (fun s e _ => by cases h : step s e <;> simp only [run, h]) Reach.step hr h

theorem reach_finalOf (evs : List Ev) : Reach (finalOf evs) := by
  unfold finalOf
  split
  · exact reach_run .init ‹_›
  · exact .init

def jobObs (s : State) (j : Nat) : List Nat :=
  let js := s.jobs j
  [js.st, js.claims, js.entered, js.exited, js.closes, js.dones, js.wg, if js.cancelled then 1 else 0]

/-- A single result job (goroutine 0 adds it, worker goroutine 1 claims and runs it and sends the
result, stores Finished and closes it; the user, goroutine 2, calls Close() concurrently, loads
Finished as well and loses the CAS), then `Wait()` returns. -/
def exSingle : List Ev :=
  [.newJob 0 0 (some 0), .stQueued 0 0, .ldClaim 1 0 1, .casClaim 1 0 1 true, .enter 1 0, .sendChan 1 0,
   .exit 1 0, .stFinished 1 0, .ldClose 1 0 3, .ldClose 2 0 3, .casClose 1 0 3 true, .casClose 2 0 3 false,
   .wgDone 1 0, .closeChan 1 0, .wgWait 2 0]

example : accepted exSingle = true := by decide
example : jobObs (finalOf exSingle) 0 = [closed, 1, 1, 1, 1, 1, 0, 0] := by decide
example : (finalOf exSingle).crashed = false ∧ ((finalOf exSingle).chans 0).closed = true ∧
    ((finalOf exSingle).chans 0).sends = 1 ∧ ((finalOf exSingle).jobs 0).hist = [4, 3, 2, 1, 0] := by decide
/-- hypotheses of `processing_while_running`, `wait_returns_closed`, `stream_closed_all_closed`,
`closed_is_final` occur: -/
example : ((finalOf (exSingle.take 6)).jobs 0).exited < ((finalOf (exSingle.take 6)).jobs 0).entered := by
  decide
example : ∃ s', step (finalOf (exSingle.take 14)) (.wgWait 2 0) = .ok s' ∧
    ((finalOf (exSingle.take 14)).jobs 0).batch = none := ⟨_, rfl, by decide⟩
example : ((finalOf exSingle).jobs 0).chan = some 0 ∧ ((finalOf exSingle).chans 0).closed = true := by decide

/-- A job that is cancelled while the dispatcher (goroutine 1) is between the load and the CAS of
claim(): the user's Close() (goroutine 2) wins, the claim CAS fails, the next load sees Closed. -/
def exCancel : List Ev :=
  [.newJob 0 0 none, .stQueued 0 0, .ldClaim 1 0 1, .ldClose 2 0 1, .casClose 2 0 1 true, .casClaim 1 0 1 false,
   .ldClaim 1 0 4, .wgDone 2 0, .wgWait 2 0]

example : accepted exCancel = true := by decide
example : jobObs (finalOf exCancel) 0 = [closed, 0, 0, 0, 1, 1, 0, 1] := by decide
example : ((finalOf exCancel).jobs 0).cancelled = true := by decide

/-- A rejected Add: the adder closes the job it has just created (status still Created). -/
def exRejected : List Ev := [.newJob 0 0 none, .ldClose 0 0 0, .casClose 0 0 0 true, .wgDone 0 0, .wgWait 0 0]

example : accepted exRejected = true := by decide
example : jobObs (finalOf exRejected) 0 = [closed, 0, 0, 0, 1, 1, 0, 1] := by decide

/-- A batch of two result items (stream 0). The items are created while nothing has completed;
worker goroutines 1 and 2 run one item each; both load count 2, goroutine 1 wins the CAS,
goroutine 2 retries, takes the count to 0 and closes the stream; then the batch `Wait()` returns. -/
def exBatch : List Ev :=
  [.newBatch 0 0 2 (some 0), .newItem 0 0 0, .stQueued 0 0, .newItem 0 1 0, .stQueued 0 1,
   .ldClaim 1 0 1, .casClaim 1 0 1 true, .ldClaim 2 1 1, .casClaim 2 1 1 true, .enter 1 0, .enter 2 1,
   .sendChan 1 0, .sendChan 2 0, .exit 1 0, .exit 2 1, .stFinished 1 0, .stFinished 2 1,
   .ldClose 1 0 3, .casClose 1 0 3 true, .ldClose 2 1 3, .casClose 2 1 3 true,
   .ldCount 1 0 2, .ldCount 2 0 2, .casCount 1 0 2 true, .casCount 2 0 2 false, .wgDoneB 1 0,
   .ldCount 2 0 1, .casCount 2 0 1 true, .wgDoneB 2 0, .closeChan 2 0, .wgWaitB 0 0]

def batchObs (s : State) (b : Nat) : List Nat × List Nat × List Nat :=
  let bs := s.batches b
  ([bs.size, bs.count, bs.wg], bs.items, bs.doneItems)

example : accepted exBatch = true := by decide
example : batchObs (finalOf exBatch) 0 = ([2, 0, 0], [1, 0], [1, 0]) := by decide
example : jobObs (finalOf exBatch) 0 = [closed, 1, 1, 1, 1, 1, 0, 0] ∧
    jobObs (finalOf exBatch) 1 = [closed, 1, 1, 1, 1, 1, 0, 0] := by decide
example : (finalOf exBatch).crashed = false ∧ ((finalOf exBatch).chans 0).closed = true ∧
    ((finalOf exBatch).chans 0).sends = 2 := by decide
/-- in the middle (after the first count CAS) goroutine 1 owes the batch wg.Done: wg = count + 1 -/
example : batchObs (finalOf (exBatch.take 24)) 0 = ([2, 1, 2], [1, 0], [0]) ∧
    ((finalOf (exBatch.take 24)).loc 1).owesWg = some 0 := by decide
example : ∃ s', step (finalOf (exBatch.take 30)) (.wgWaitB 0 0) = .ok s' := ⟨_, rfl⟩

/-- An item of a batch completes while a later item has not even been created. -/
def exBatchEarly : List Ev :=
  [.newBatch 0 0 2 none, .newItem 0 0 0, .stQueued 0 0, .ldClaim 1 0 1, .casClaim 1 0 1 true, .enter 1 0, .exit 1 0,
   .stFinished 1 0, .ldClose 1 0 3, .casClose 1 0 3 true, .ldCount 1 0 2, .casCount 1 0 2 true, .wgDoneB 1 0,
   .newItem 0 1 0, .stQueued 0 1]

example : accepted exBatchEarly = true := by decide
example : batchObs (finalOf exBatchEarly) 0 = ([2, 1, 1], [1, 0], [0]) := by decide

/-- An empty batch: nothing will ever finish, the creator closes the stream; `Wait()` returns. -/
def exEmpty : List Ev := [.newBatch 0 0 0 (some 0), .closeChan 0 0, .wgWaitB 0 0]

example : accepted exEmpty = true := by decide
example : batchObs (finalOf exEmpty) 0 = ([0, 0, 0], [], []) ∧ ((finalOf exEmpty).chans 0).closed = true ∧
    (finalOf exEmpty).crashed = false := by decide
example : ((finalOf (exEmpty.take 1)).loc 0).owesClose = some 0 := by decide

/-- The case excluded from `status_monotone` is real: parseToJob stores whatever the envelope says
and claim() moves every status except Closed to Processing. -/
def exParsedFinished : List Ev := [.newJob 0 0 none, .stParsed 0 0 3, .ldClaim 1 0 3, .casClaim 1 0 3 true]

theorem status_monotone_parsedFinished_real :
    Reach (finalOf exParsedFinished) ∧ ((finalOf exParsedFinished).jobs 0).parsedFinished = true ∧
    ((finalOf exParsedFinished).jobs 0).hist = [processing, finished, created] ∧
    ¬ List.Pairwise (· ≥ ·) ((finalOf exParsedFinished).jobs 0).hist :=
  ⟨reach_finalOf _, by decide, by decide, by decide⟩

example : ((finalOf exCancel).jobs 0).entered = 0 := cancelled_never_runs (reach_finalOf _) (by decide)
example : List.Pairwise (· ≥ ·) ((finalOf exSingle).jobs 0).hist := status_monotone (reach_finalOf _) (by decide)

#print axioms claims_le_one
#print axioms runs_le_one
#print axioms cancelled_never_runs
#print axioms closes_le_one
#print axioms no_crash
#print axioms status_le_closed
#print axioms status_head
#print axioms status_monotone
#print axioms status_max
#print axioms closed_is_final
#print axioms processing_while_running
#print axioms closed_not_running
#print axioms wait_returns_closed
#print axioms batch_count_exact
#print axioms batch_count_exact'
#print axioms batch_done_items
#print axioms batch_wg_exact
#print axioms batch_wg_le
#print axioms batch_wg_le_list
#print axioms batch_wg_eq
#print axioms batch_wait_all_closed
#print axioms stream_closed_all_closed
#print axioms stream_closed_no_closer
#print axioms stream_closer_unique
#print axioms stream_closed_no_sender
#print axioms done_owner_unique
#print axioms dones_le_one
#print axioms status_monotone_parsedFinished_real
#print axioms inv_of_reach

end Job
end VarmqVerif
