/-
  Refinement proof: the segmented FIFO queue model (Model/Fifo.lean, transcribed from
  /repo/internal/queues/queue.go + /repo/internal/linkedbuffer/chunk.go) is observationally equal
  to a plain list queue (Spec/ListQueue.lean), for every operation sequence and all capacities
  `initCap ≥ 1`, `maxCap ≥ 1`; and it is NOT for `initCap = 0` or `maxCap = 0`
  (`refines_fails_without_caps`, `refines_iff_caps`).
-/
import VarmqVerif.Proofs.FifoLemmas

namespace VarmqVerif
universe u

namespace ListQueue
variable {α : Type u}
open Fifo (Op Out)

theorem step_deq (s : State α) :
    step s .deq = ((s.1.tail, s.2), .item s.1.head?) := by
  obtain ⟨q, c⟩ := s
  cases q <;> rfl

theorem accepted_cons (op : Op α) (o : Out α) (ops : List (Op α)) (outs : List (Out α)) :
    accepted (op :: ops) (o :: outs) = accepted [op] [o] ++ accepted ops outs :=
  List.filterMap_append (l := [(op, o)])

theorem dequeued_cons (o : Out α) (outs : List (Out α)) :
    dequeued (o :: outs) = dequeued [o] ++ dequeued outs :=
  List.filterMap_append (l := [o])

theorem step_account (s : State α) (op : Op α) :
    (dequeued [(step s op).2] ++ (step s op).1.1).Sublist (s.1 ++ accepted [op] [(step s op).2]) ∧
    (notPurge op = true → s.1 ++ accepted [op] [(step s op).2] = dequeued [(step s op).2] ++ (step s op).1.1) := by
  obtain ⟨q, c⟩ := s
  cases op with
  | enq x => cases c <;> simp [step, accepted, dequeued]
  | deq => cases q <;> simp [step, accepted, dequeued]
  | _ => simp [step, accepted, dequeued, notPurge]

/-- Conservation law of the list queue: handed-out items followed by the remaining ones are a
    subsequence (same relative order, no duplication, nothing invented) of initial content followed by
    accepted items, and without purge they are all of it. -/
theorem run_account (s : State α) (ops : List (Op α)) :
    (dequeued (run s ops).2 ++ (run s ops).1.1).Sublist (s.1 ++ accepted ops (run s ops).2) ∧
    (ops.all notPurge = true →
      s.1 ++ accepted ops (run s ops).2 = dequeued (run s ops).2 ++ (run s ops).1.1) := by
  induction ops generalizing s with
  | nil => simp [run, accepted, dequeued]
  | cons op ops ih =>
    obtain ⟨h1, h2⟩ := step_account s op
    obtain ⟨i1, i2⟩ := ih (step s op).1
    simp only [run, List.all_cons, Bool.and_eq_true]
    rw [accepted_cons, dequeued_cons, List.append_assoc, ← List.append_assoc s.1]
    exact ⟨(i1.append_left _).trans (by simpa using h1.append_right _),
      fun h => by rw [h2 h.1, List.append_assoc, i2 h.2]⟩

theorem run_enq_open (x : α) : ∀ (k : Nat) (q : List α),
    (run (q, false) (List.replicate k (.enq x))).2 = List.replicate k (.bool true) := by
  intro k
  induction k with
  | zero => intro q; rfl
  | succ k ih => intro q; simp [List.replicate_succ, run, step, ih]

end ListQueue

namespace Fifo

variable {α : Type u}

/-- One fresh chunk and zeroed counters: what `NewQueue` and `Purge` both leave. -/
theorem inv_fresh {ic mc : Nat} (h1 : 1 ≤ ic) (h2 : 1 ≤ mc) (b : Bool) :
    Inv (⟨Chunk.new ic, [], 0, 0, b, ic, mc⟩ : State α) :=
  ⟨h1, h2, ⟨Nat.le_refl _, Nat.zero_le _, h1, Nat.le_max_left _ _⟩, rfl⟩

theorem inv_init {ic mc : Nat} (h1 : 1 ≤ ic) (h2 : 1 ≤ mc) : Inv (init ic mc : State α) :=
  inv_fresh h1 h2 false

theorem abs_purge (s : State α) : abs (purge s) = [] := rfl

theorem step_inv {s : State α} (h : Inv s) (op : Op α) : Inv (step s op).1 := by
  cases op with
  | enq x => exact (enqueue_spec h x).2.2.1
  | deq => exact (dequeue_spec h).2.2.1
  | len => exact h
  | values => exact h
  | purge => exact inv_fresh h.ic_pos h.mc_pos s.closed
  -- rebuilt field by field: `Inv (close s)` is not `Inv s`, though every field is definitionally the same
  | close => exact ⟨h.ic_pos, h.mc_pos, h.chunks, h.count⟩

theorem lenOf_eq {s : State α} (h : Inv s) : lenOf s = (abs s).length := by
  have := h.count; unfold lenOf; omega

theorem valuesOf_eq {s : State α} (h : Inv s) : valuesOf s = abs s := by
  unfold valuesOf
  rw [lenOf_eq h]
  split
  · next h0 => exact (List.eq_nil_of_length_eq_zero h0).symm
  · rfl

theorem step_refines {s : State α} (h : Inv s) (op : Op α) :
    (step s op).2 = (ListQueue.step (abs s, s.closed) op).2 ∧
    (abs (step s op).1, (step s op).1.closed) = (ListQueue.step (abs s, s.closed) op).1 := by
  cases op with
  | enq x =>
    obtain ⟨e1, e2, _, e4⟩ := enqueue_spec h x
    cases hc : s.closed <;> simp [step, ListQueue.step, e1, e2, e4, hc]
  | deq =>
    obtain ⟨d1, d2, _, d4⟩ := dequeue_spec h
    rw [ListQueue.step_deq]
    simp [step, d1, d2, d4]
  | len => exact ⟨congrArg Out.nat (lenOf_eq h), rfl⟩
  | values => exact ⟨congrArg Out.list (valuesOf_eq h), rfl⟩
  | purge => exact ⟨rfl, congrArg (·, s.closed) (abs_purge s)⟩
  | close => exact ⟨rfl, rfl⟩

-- Non-vacuity of `step_refines`: a dequeue that crosses a chunk boundary.
example :
    let s := (run (init 2 3 : State Nat) [.enq 1, .enq 2, .enq 3, .deq, .deq]).1
    shape s = [(2, 2, 2), (3, 0, 1)] ∧ abs s = [3] ∧
    step s .deq = ({ s with head := ⟨3, [3], 1⟩, rest := [], readCount := 3 }, .item (some 3)) := by
  decide

/-- `Len()` is exact (in the sequential model, 2^64 counter wrap-around excluded). -/
theorem len_exact {s : State α} (h : Inv s) : (step s .len).2 = .nat (abs s).length :=
  (step_refines h .len).1

example : (step (run (init 2 3 : State Nat) [.enq 1, .enq 2, .enq 3, .deq]).1 .len).2 = .nat 2 := by
  decide

theorem run_inv {s : State α} (h : Inv s) (ops : List (Op α)) : Inv (run s ops).1 := by
  induction ops generalizing s with
  | nil => exact h
  | cons op ops ih => exact ih (step_inv h op)

-- Non-vacuity of `Inv`: a state with three chunks, the first partly read, the last partly filled.
example : Inv (run (init 2 3 : State Nat)
    [.enq 1, .enq 2, .enq 3, .enq 4, .enq 5, .enq 6, .deq]).1 :=
  run_inv (inv_init (by decide) (by decide)) _

theorem run_refines {s : State α} (h : Inv s) (ops : List (Op α)) :
    (run s ops).2 = (ListQueue.run (abs s, s.closed) ops).2 ∧
    (abs (run s ops).1, (run s ops).1.closed) = (ListQueue.run (abs s, s.closed) ops).1 := by
  induction ops generalizing s with
  | nil => exact ⟨rfl, rfl⟩
  | cons op ops ih =>
    obtain ⟨r1, r2⟩ := step_refines h op
    obtain ⟨i1, i2⟩ := ih (step_inv h op)
    simp only [run, ListQueue.run]
    rw [← r2, ← r1]
    exact ⟨by rw [i1], i2⟩

theorem refines_list {ic mc : Nat} (h1 : 1 ≤ ic) (h2 : 1 ≤ mc) (ops : List (Op α)) :
    (run (init ic mc) ops).2 = (ListQueue.run ListQueue.init ops).2 :=
  (run_refines (inv_init h1 h2) ops).1

/-- The ops of the non-vacuity examples: initCap = 2, maxCap = 3; 8 enqueues fill chunks of
    capacity 2, 3, 3 (two chunk boundaries crossed by the writer), 6 dequeues cross both boundaries
    on the read side, then a purge, and use after purge and after close. -/
def demoOps : List (Op Nat) :=
  [.enq 1, .enq 2, .enq 3, .len, .enq 4, .enq 5, .enq 6, .enq 7, .enq 8, .values,
   .deq, .deq, .deq, .deq, .deq, .deq, .len, .values, .purge, .len, .values, .deq,
   .enq 9, .enq 10, .enq 11, .close, .enq 12, .deq, .deq, .deq, .deq, .len]

example : (run (init 2 3) demoOps).2 =
    [.bool true, .bool true, .bool true, .nat 3, .bool true, .bool true, .bool true, .bool true,
     .bool true, .list [1, 2, 3, 4, 5, 6, 7, 8],
     .item (some 1), .item (some 2), .item (some 3), .item (some 4), .item (some 5), .item (some 6),
     .nat 2, .list [7, 8], .unit, .nat 0, .list [], .item none,
     .bool true, .bool true, .bool true, .unit, .bool false,
     .item (some 9), .item (some 10), .item (some 11), .item none, .nat 0] := by decide +kernel

example : (run (init 2 3) demoOps).2 = (ListQueue.run ListQueue.init demoOps).2 := by decide +kernel

-- chunk shapes (cap, r, w) along that run: after 8 enqueues; after 3 more dequeues; after purge+3 enq
example : shape (run (init 2 3) (demoOps.take 9)).1 = [(2, 0, 2), (3, 0, 3), (3, 0, 3)] := by decide +kernel
example : shape (run (init 2 3) (demoOps.take 13)).1 = [(3, 1, 3), (3, 0, 3)] := by decide +kernel
example : shape (run (init 2 3) (demoOps.take 25)).1 = [(2, 0, 2), (3, 0, 1)] := by decide +kernel

theorem step_params (s : State α) (op : Op α) :
    (step s op).1.initCap = s.initCap ∧ (step s op).1.maxCap = s.maxCap := by
  cases op with
  | enq x => cases hc : s.closed <;> simp [step, enqueue, hc]
  | deq =>
    simp only [step, dequeue]
    repeat' split
    all_goals exact ⟨rfl, rfl⟩
  | _ => exact ⟨rfl, rfl⟩

theorem run_params (s : State α) (ops : List (Op α)) :
    (run s ops).1.initCap = s.initCap ∧ (run s ops).1.maxCap = s.maxCap := by
  induction ops generalizing s with
  | nil => exact ⟨rfl, rfl⟩
  | cons op ops ih =>
    have h1 := ih (step s op).1
    have h2 := step_params s op
    exact ⟨h1.1.trans h2.1, h1.2.trans h2.2⟩

/-- Sanity of the growth rule `min(cap + cap/2, maxCapacity)`. -/
theorem chunk_caps {ic mc : Nat} (h1 : 1 ≤ ic) (h2 : 1 ≤ mc) (ops : List (Op α)) :
    ∀ c ∈ (run (init ic mc) ops).1.chunks,
      1 ≤ c.cap ∧ c.cap ≤ max ic mc ∧ c.r ≤ c.data.length ∧ c.data.length ≤ c.cap := by
  intro c hc
  have hinv := run_inv (inv_init (α := α) h1 h2) ops
  have hp := run_params (init ic mc : State α) ops
  have hwf := (listInv_iff.mp hinv.chunks).1 c hc
  rw [hp.1, hp.2] at hwf
  exact ⟨hwf.cap_pos, hwf.cap_le, hwf.r_le, hwf.w_le⟩

example : ((run (init 2 3) (demoOps.take 9)).1.chunks.map (·.cap) = [2, 3, 3]) ∧
    ((run (init 5 3) (demoOps.take 9)).1.chunks.map (·.cap) = [5, 3]) := by decide +kernel

open ListQueue (accepted dequeued notPurge)

theorem run_account {s : State α} (h : Inv s) (ops : List (Op α)) :
    (dequeued (run s ops).2 ++ abs (run s ops).1).Sublist (abs s ++ accepted ops (run s ops).2) ∧
    (ops.all notPurge = true →
      abs s ++ accepted ops (run s ops).2 = dequeued (run s ops).2 ++ abs (run s ops).1) := by
  obtain ⟨r1, r2⟩ := run_refines h ops
  have := ListQueue.run_account (abs s, s.closed) ops
  rwa [← r1, ← r2] at this

/-- In any run of the segmented queue without `Purge`, the sequence of items returned
    by successful `Dequeue`s is a prefix of the sequence of items accepted by `Enqueue`
    (so: same order, nothing lost in the middle, nothing duplicated, nothing invented); more
    precisely accepted = dequeued ++ current content. -/
theorem fifo_order {ic mc : Nat} (h1 : 1 ≤ ic) (h2 : 1 ≤ mc) (ops : List (Op α))
    (hnp : ops.all notPurge = true) :
    accepted ops (run (init ic mc) ops).2
      = dequeued (run (init ic mc) ops).2 ++ abs (run (init ic mc) ops).1 ∧
    dequeued (run (init ic mc) ops).2 <+: accepted ops (run (init ic mc) ops).2 := by
  have e := (run_account (inv_init (α := α) h1 h2) ops).2 hnp
  rw [show abs (init ic mc : State α) = [] from rfl, List.nil_append] at e
  exact ⟨e, e ▸ List.prefix_append _ _⟩

/-- FIFO order with purges: dequeued items are a subsequence of the accepted items (purged items
    are the ones missing), in acceptance order. -/
theorem fifo_order_purge {ic mc : Nat} (h1 : 1 ≤ ic) (h2 : 1 ≤ mc) (ops : List (Op α)) :
    (dequeued (run (init ic mc) ops).2).Sublist (accepted ops (run (init ic mc) ops).2) :=
  (List.sublist_append_left _ _).trans (run_account (inv_init (α := α) h1 h2) ops).1

example : accepted demoOps (run (init 2 3) demoOps).2 = [1, 2, 3, 4, 5, 6, 7, 8, 9, 10, 11] ∧
    dequeued (run (init 2 3) demoOps).2 = [1, 2, 3, 4, 5, 6, 9, 10, 11] := by decide +kernel

example : (demoOps.take 16).all notPurge = true ∧
    accepted (demoOps.take 16) (run (init 2 3) (demoOps.take 16)).2 = [1, 2, 3, 4, 5, 6, 7, 8] ∧
    dequeued (run (init 2 3) (demoOps.take 16)).2 = [1, 2, 3, 4, 5, 6] := by decide +kernel

/-! ## The capacity guards are necessary -/

/-- Without the guards refinement is false.
    * `initialBufferCapacity = 0`: the first chunk has capacity 0, the grown capacity is
      `min(0 + 0/2, max) = 0`, so *every* `Enqueue` returns `false` ("Should never happen" branch)
      and each call links one more empty chunk (a leak), for every `maxCap`.
    * `chunkMaxCapacity = 0` (with `initCap = 1`): the first enqueue succeeds, the second one
      allocates a chunk of capacity `min(1, 0) = 0` and returns `false`. -/
theorem refines_fails_without_caps :
    (∀ mc, (run (init 0 mc) [Op.enq ()]).2 ≠ (ListQueue.run ListQueue.init [Op.enq ()]).2) ∧
    (run (init 1 0) [Op.enq (), .enq ()]).2 ≠ (ListQueue.run ListQueue.init [Op.enq (), .enq ()]).2 ∧
    (∀ mc, shape (run (init 0 mc) [Op.enq (), .enq ()]).1 = [(0, 0, 0), (0, 0, 0), (0, 0, 0)]) := by
  refine ⟨?_, by decide +kernel, ?_⟩
  · intro mc
    simp [run, step, enqueue, init, enqChunks, Chunk.push_eq, Chunk.new, ListQueue.run,
      ListQueue.step, ListQueue.init]
  · intro mc
    simp [run, step, enqueue, init, enqChunks, Chunk.push_eq, Chunk.new, shape, State.chunks]

/-- The state of `init ic mc` after `n ≤ ic` enqueues of `x` (only the first chunk in use). -/
def filled (ic mc n : Nat) (x : α) : State α :=
  { head := ⟨ic, List.replicate n x, 0⟩, rest := [], writeCount := n, readCount := 0,
    closed := false, initCap := ic, maxCap := mc }

theorem step_filled_lt {ic mc n : Nat} (x : α) (h : n < ic) :
    step (filled ic mc n x) (.enq x) = (filled ic mc (n + 1) x, .bool true) := by
  have h' : ¬ ic ≤ n := by omega
  simp [filled, step, enqueue, enqChunks, Chunk.push_eq, h', List.replicate_succ']

theorem step_filled_full {ic mc : Nat} (x : α) (h0 : min (ic + ic / 2) mc = 0) :
    (step (filled ic mc ic x) (.enq x)).2 = .bool false := by
  simp [filled, step, enqueue, enqChunks, Chunk.push_eq, Chunk.new, h0]

theorem run_filled_false {ic mc : Nat} (x : α) (h0 : min (ic + ic / 2) mc = 0) :
    ∀ (k n : Nat), n ≤ ic → ic < n + k →
    Out.bool false ∈ (run (filled ic mc n x) (List.replicate k (.enq x))).2 := by
  intro k
  induction k with
  | zero => intro n h1 h2; omega
  | succ k ih =>
    intro n h1 h2
    simp only [List.replicate_succ, run]
    by_cases hn : n < ic
    · rw [step_filled_lt x hn]
      exact List.mem_cons_of_mem _ (ih (n + 1) hn (by omega))
    · have : n = ic := by omega
      subst this
      rw [step_filled_full x h0]
      exact List.mem_cons_self

/-- The guards `1 ≤ initCap`, `1 ≤ maxCap` are exactly the truth: for any inhabited element type,
    observational equality with the list queue holds for all operation sequences iff both
    capacities are positive. -/
theorem refines_iff_caps (x : α) (ic mc : Nat) :
    (∀ ops : List (Op α), (run (init ic mc) ops).2 = (ListQueue.run ListQueue.init ops).2)
      ↔ 1 ≤ ic ∧ 1 ≤ mc := by
  constructor
  · intro h
    -- otherwise the grown capacity is 0 and the `ic + 1`-st enqueue returns `false`
    refine Decidable.byContradiction fun hn => ?_
    have hmem := run_filled_false x (mc := mc) (by omega) (ic + 1) 0 (Nat.zero_le ic) (by omega)
    rw [show filled ic mc 0 x = init ic mc from rfl, h, ListQueue.init, ListQueue.run_enq_open] at hmem
    simpa using List.eq_of_mem_replicate hmem
  · intro ⟨h1, h2⟩ ops
    exact refines_list h1 h2 ops

example : (∀ ops : List (Op Nat), (run (init 1 1) ops).2 = (ListQueue.run ListQueue.init ops).2) :=
  (refines_iff_caps 0 1 1).2 ⟨by decide, by decide⟩

end Fifo
end VarmqVerif

#print axioms VarmqVerif.Fifo.refines_list
#print axioms VarmqVerif.Fifo.step_inv
#print axioms VarmqVerif.Fifo.step_refines
#print axioms VarmqVerif.Fifo.len_exact
#print axioms VarmqVerif.Fifo.fifo_order
#print axioms VarmqVerif.Fifo.fifo_order_purge
#print axioms VarmqVerif.Fifo.chunk_caps
#print axioms VarmqVerif.Fifo.refines_fails_without_caps
#print axioms VarmqVerif.Fifo.refines_iff_caps
