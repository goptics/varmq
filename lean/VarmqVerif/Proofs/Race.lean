/-
  Theorems about the happens-before race detector `Race` (Model/Race.lean), property C19, for every trace (any
  number of goroutines, synchronisation objects, events).
  All are read off `mem_detect` (what is reported, as an equivalence): the `hrep` field of the invariant `Inv`
  of `run (tr.take n)` (Proofs/RaceLemmas.lean, `inv_take`) at `n = tr.length`.
-/
import VarmqVerif.Proofs.RaceLemmas

namespace VarmqVerif
namespace Race

theorem detect_sound (tr : List Ev) (r : Report) (h : r ∈ detect tr) : RacePair tr r.i r.j :=
  (mem_detect.1 h).racePair

theorem detect_sites (tr : List Ev) (r : Report) (h : r ∈ detect tr) :
    ∃ e f a s w b u x, tr[r.i]? = some e ∧ tr[r.j]? = some f ∧
      e.access = some (a, s, w, r.siteI) ∧ f.access = some (b, u, x, r.siteJ) := by
  obtain ⟨_, e, f, a, s, w, b, u, x, h1, h2, h3, h4, _⟩ := mem_detect.1 h
  exact ⟨e, f, a, s, w, b, u, x, h1, h2, h3, h4⟩

theorem detect_complete (tr : List Ev) (i j : Nat) (h : RacePair tr i j) :
    ∃ r ∈ detect tr, r.i = i ∧ r.j = j := by
  obtain ⟨hlt, e, f, a, s, w, k, b, u, x, l, h⟩ := h
  exact ⟨⟨i, j, k, l⟩, mem_detect.2 ⟨hlt, e, f, a, s, w, b, u, x, h⟩, rfl, rfl⟩

theorem detect_nil_iff (tr : List Ev) : detect tr = [] ↔ ¬ Racy tr := by
  rw [List.eq_nil_iff_forall_not_mem]
  constructor
  · rintro h ⟨i, j, hr⟩
    obtain ⟨r, hm, _⟩ := detect_complete tr i j hr
    exact h r hm
  · exact fun h r hm => h ⟨r.i, r.j, detect_sound tr r hm⟩

open Ev

/-- two writes of different goroutines after the `go` statement: reported -/
example : detect [fork 0 1, wr 0 100 8 1, wr 1 100 8 2] = [⟨1, 2, 1, 2⟩] := by decide

/-- … so the trace is racy -/
example : Racy [fork 0 1, wr 0 100 8 1, wr 1 100 8 2] := by
  exact ⟨1, 2, detect_sound _ ⟨1, 2, 1, 2⟩ (by decide)⟩

/-- the same two writes under one lock -/
example : detect [fork 0 1, acq 0 7, wr 0 100 8 1, rel 0 7, acq 1 7, wr 1 100 8 2, rel 1 7] = [] := by
  decide

/-- … so the trace is not racy -/
example : ¬ Racy [fork 0 1, acq 0 7, wr 0 100 8 1, rel 0 7, acq 1 7, wr 1 100 8 2, rel 1 7] := by
  rw [← detect_nil_iff]
  decide

/-- two different locks do not protect -/
example : detect [fork 0 1, acq 0 7, wr 0 100 8 1, rel 0 7, acq 1 9, wr 1 100 8 2, rel 1 9]
    = [⟨2, 5, 1, 2⟩] := by decide

/-- a write before the `go` statement is ordered before everything the child does -/
example : detect [wr 0 100 8 1, fork 0 1, rd 1 100 8 2] = [] := by decide

/-- non-overlapping addresses -/
example : detect [fork 0 1, wr 0 100 8 1, wr 1 108 8 2] = [] := by decide

/-- overlapping ranges of different sizes -/
example : detect [fork 0 1, wr 0 100 8 1, rd 1 104 4 2] = [⟨1, 2, 1, 2⟩] := by decide

/-- two reads do not conflict -/
example : detect [fork 0 1, rd 0 100 8 1, rd 1 100 8 2] = [] := by decide

/-- join: the parent continues after the child's work -/
example : detect [fork 0 1, wr 1 100 8 1, join 0 1, rd 0 100 8 2] = [] := by decide

/-- without the join the read races with the child's write -/
example : detect [fork 0 1, wr 1 100 8 1, rd 0 100 8 2] = [⟨1, 2, 1, 2⟩] := by decide

/-- a channel (acqrel on both sides) orders the sender's earlier write before the receiver's read;
    the sender's later write is not ordered -/
example : detect [fork 0 1, wr 0 100 8 1, acqrel 0 5, wr 0 200 8 3, acqrel 1 5, rd 1 100 8 2,
    rd 1 200 8 4] = [⟨3, 6, 3, 4⟩] := by decide

/-- one access can race with several earlier ones: all are reported -/
example : detect [fork 0 1, fork 0 2, wr 1 100 8 1, wr 2 100 8 2, wr 0 100 8 3]
    = [⟨2, 3, 1, 2⟩, ⟨3, 4, 2, 3⟩, ⟨2, 4, 1, 3⟩] := by decide

end Race
end VarmqVerif
