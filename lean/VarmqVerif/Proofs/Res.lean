/-
  Theorems about the reservation / barrier protocol model `Res` (Model/Res.lean): properties C06
  (safety half) and C09, the bounds on `curProcessing`, and the limit re-check of reserve().  The inductive invariants are in
  Proofs/ResLemmas.lean (`reach_inv`).

  A barrier result (`bst`, `checked`) belongs to the critical section in which it was computed.  Two guards
  of the model say so, and `stopped_quiet`, `frozen_quiet`, `no_start_when_frozen`, `barrier_return_exact`
  are false without them:
    (a) `.ldCurB` sets `checked` only if the loaded status is still the current one (`b == s.ws`);
    (b) `.lockL g` clears `bst g` and `checked g`.
  The runs at the end of this file would reach a frozen or stopped state that is not `Quiet` if a stale
  result could be used; each is rejected at the event that uses it.
-/
import VarmqVerif.Proofs.ResLemmas

namespace VarmqVerif
namespace Res

/-- `State` has function fields, so it has no `DecidableEq`: project what is to be checked -/
def runProj {α : Type} (f : State → α) (c : Nat) (evs : List Ev) : Option α :=
  match run (init c) evs with
  | .ok s => some (f s)
  | .error _ => none

theorem reach_of_runProj {α : Type} {f : State → α} {c : Nat} {evs : List Ev} {x : α}
    (h : runProj f c evs = some x) : ∃ s, Reach s ∧ run (init c) evs = .ok s ∧ f s = x := by
  unfold runProj at h
  split at h
  · rename_i s hs
    exact ⟨s, reach_run (Reach.init c) hs, hs, by simpa using h⟩
  · cases h

theorem exists_reach {P : State → Prop} [DecidablePred P] {c : Nat} {evs : List Ev}
    (h : runProj (fun s => decide (P s)) c evs = some true) : ∃ s, Reach s ∧ P s :=
  have ⟨s, r, _, hs⟩ := reach_of_runProj h
  ⟨s, r, of_decide_eq_true hs⟩

theorem exists_reach_step {P : State → State → Prop} [∀ s s', Decidable (P s s')] {c : Nat} {evs : List Ev} {e : Ev}
    (h : runProj (fun s => match step s e with | .ok s' => decide (P s s') | .error _ => false) c evs = some true) :
    ∃ s s', Reach s ∧ step s e = .ok s' ∧ P s s' := by
  have ⟨s, r, _, hs⟩ := reach_of_runProj h
  split at hs
  · exact ⟨s, _, r, ‹_›, of_decide_eq_true hs⟩
  · cases hs

/-- Bind starts the run; one job is reserved, handed over, executed and released; then a
    PauseAndWait locks, stores paused, evaluates its barrier condition, unlocks, returns nil. -/
def exFrozen : List Ev := [
  .call 0 .bind, .lockL 0, .ldStatusL 0 initiated, .stStatus 0 running, .unlockL 0, .ret 0 .bind true,
  .ldCurD 5 0, .ldConcD 5 2, .casCur 5 0 1 true, .ldStatusD 5 running, .ldConcR 5 2, .send 5,
  .enter 7 0, .ldCurAny 9 1, .exit 7 0, .relR 7 0,
  .call 1 .pauseAndWait, .lockL 1, .ldStatusL 1 running, .stStatus 1 paused,
  .ldStatusB 1 paused, .ldCurB 1 0, .unlockL 1, .ret 1 .pauseAndWait true]

/-- as `exFrozen`, but the call is Stop and it stores `stopped` after the barrier -/
def exStopped : List Ev := [
  .call 0 .bind, .lockL 0, .ldStatusL 0 initiated, .stStatus 0 running, .unlockL 0, .ret 0 .bind true,
  .ldCurD 5 0, .ldConcD 5 2, .casCur 5 0 1 true, .ldStatusD 5 running, .ldConcR 5 2, .send 5,
  .enter 7 0, .exit 7 0, .relR 7 0,
  .call 1 .stop, .lockL 1, .ldStatusL 1 running, .stStatus 1 paused,
  .ldStatusB 1 paused, .ldCurB 1 0, .stStatus 1 stopped, .unlockL 1, .ret 1 .stop true]

example : exFrozen.length = 24 := rfl
example : runProj (fun s => (s.frozen, s.ws, s.cur, s.starts, s.nExec)) 2 exFrozen = some (true, paused, 0, 1, 0) := by decide
example : runProj (fun s => (s.frozen, s.ws, s.cur)) 2 exStopped = some (true, stopped, 0) := by decide

theorem acc_inv {s : State} (r : Reach s) : Acc s := (reach_inv r).1.acc

theorem conc_le_maxConc {s : State} (r : Reach s) : s.conc ≤ s.maxConc := (reach_inv r).1.conc

theorem lcc_le_maxConc {s : State} (r : Reach s) : ∀ g cc, s.lcc g = some cc → cc ≤ s.maxConc :=
  (reach_inv r).1.lcc

/-- C02: `curProcessing` never exceeds the largest concurrency limit ever configured -/
theorem cur_le_maxConc {s : State} (r : Reach s) : s.cur ≤ s.maxConc := (reach_inv r).1.cur

theorem executing_le_cur {s : State} (r : Reach s) : s.nExec + s.handed + s.nHold ≤ s.cur := by
  have := acc_inv r; unfold Acc at this; omega

/-- C02: in-flight worker functions never exceed the largest limit ever configured -/
theorem executing_le_maxConc {s : State} (r : Reach s) : s.nExec ≤ s.maxConc := by
  have := executing_le_cur r; have := cur_le_maxConc r; omega

/-- what NumProcessing() can return -/
theorem read_cur_le_maxConc {s s' : State} {g v : Nat} (r : Reach s)
    (h : step s (.ldCurAny g v) = .ok s') : v ≤ s.maxConc := by
  simp only [step, error_else_eq_ok, bne_iff_ne, ne_eq, Decidable.not_not] at h
  exact h.1 ▸ cur_le_maxConc r

example : ∃ s, Reach s ∧ s.nExec = 1 ∧ s.cur = 1 ∧ s.maxConc = 2 ∧
    ∃ s', step s (.ldCurAny 9 1) = .ok s' :=
  have ⟨s, s', r, h, h1, h2, h3⟩ := exists_reach_step (c := 2) (evs := exFrozen.take 13) (e := .ldCurAny 9 1)
    (P := fun s _ => s.nExec = 1 ∧ s.cur = 1 ∧ s.maxConc = 2) (by decide)
  ⟨s, r, h1, h2, h3, s', h⟩

/-! ## The limit re-check of reserve() (C02) -/

theorem ldConcR_ok {s s' : State} {g v : Nat} (h : step s (.ldConcR g v) = .ok s') :
    s.ph g = .checked ∧ s'.ph g = if s.conc < s.tk g then .mustRelease else .holding := by
  simp only [step, error_else_eq_ok, bne_iff_ne, ne_eq, Decidable.not_not] at h
  obtain ⟨hp, rfl, -, h⟩ := h
  refine ⟨hp, ?_⟩
  split at h <;> cases h <;> simp [*]

theorem recheck_gives_back {s s' : State} {g v : Nat} (h : step s (.ldConcR g v) = .ok s')
    (hg : s.conc < s.tk g) : s'.ph g = .mustRelease := by
  rw [(ldConcR_ok h).2, if_pos hg]

theorem holding_within_limit {s s' : State} {g v : Nat} (h : step s (.ldConcR g v) = .ok s')
    (hh : s'.ph g = .holding) : s.tk g ≤ s.conc :=
  Nat.le_of_not_lt fun hg => by cases (recheck_gives_back h hg).symm.trans hh

theorem taken_bounds {s : State} (hr : Reach s) (g : Nat) (hp : s.ph g ≠ .idle) :
    1 ≤ s.tk g ∧ s.tk g ≤ s.maxConc := (reach_inv hr).1.tk g hp

theorem taken_le_cur {s : State} (hr : Reach s) (g : Nat) (hp : s.ph g = .checked ∨ s.ph g = .reserved) :
    1 ≤ s.tk g :=
  (taken_bounds hr g (by rcases hp with hp | hp <;> simp [hp])).1

theorem holding_taken_le {s s' : State} {g v : Nat} (r : Reach s) (h : step s (.ldConcR g v) = .ok s')
    (hh : s'.ph g = .holding) : 1 ≤ s.tk g ∧ s.tk g ≤ s.conc ∧ s.conc ≤ s.maxConc :=
  ⟨(taken_bounds r g (by simp [(ldConcR_ok h).1])).1, holding_within_limit h hh, conc_le_maxConc r⟩

/-- the limit is lowered between the first load of the limit and the CAS: goroutine 6 takes the
    value 2 while the limit is 1; the limit re-check sends it to `mustRelease`, it cannot send -/
def exLimit : List Ev := [
  .call 0 .bind, .lockL 0, .ldStatusL 0 initiated, .stStatus 0 running, .unlockL 0, .ret 0 .bind true,
  .ldCurD 5 0, .ldConcD 5 2, .casCur 5 0 1 true, .ldStatusD 5 running, .ldConcR 5 2,
  .ldCurD 6 1, .ldConcD 6 2, .stConc 3 1, .casCur 6 1 2 true, .ldStatusD 6 running, .ldConcR 6 1]

example : runProj (fun s => (s.ph 6, s.tk 6, s.conc, s.cur, s.nHold, s.nRes)) 2 exLimit = some (.mustRelease, 2, 1, 2, 1, 1) := by decide
example : runProj (·.cur) 2 (exLimit ++ [.send 6]) = none := by decide
example : runProj (fun s => (s.ph 6, s.cur, s.nRes)) 2 (exLimit ++ [.relD 6 1]) = some (.idle, 1, 0) := by decide
/-- the limit re-check cannot be skipped: no hand-over from phase `checked` -/
example : runProj (·.cur) 2 (exLimit.take 16 ++ [.send 6]) = none := by decide

example : ∃ s s', Reach s ∧ step s (.ldConcR 6 1) = .ok s' ∧ s.conc < s.tk 6 :=
  exists_reach_step (c := 2) (evs := exLimit.take 16) (by decide)

/-! ## Quiet windows (C06, C09) -/

/-- C09: a stopped worker holds no dispatched job -/
theorem stopped_quiet {s : State} (r : Reach s) (h : s.ws = stopped) : Quiet s := (reach_inv r).2.1.S h

example : ∃ s, Reach s ∧ s.ws = stopped := exists_reach (c := 2) (evs := exStopped) (by decide)

/-- C09: after PauseAndWait/Stop/WaitAndStop returned nil, with no Resume/Restart/Bind
    in progress during it or called since, the worker is paused/stopped and no dispatched job exists -/
theorem frozen_quiet {s : State} (r : Reach s) (h : s.frozen = true) : Quiet s := ((reach_inv r).2.1.F h).2

theorem frozen_no_resumer {s : State} (r : Reach s) (h : s.frozen = true) : s.openResumers = 0 :=
  ((reach_inv r).2.1.F h).1

example : ∃ s, Reach s ∧ s.frozen = true ∧ s.starts = 1 := exists_reach (c := 2) (evs := exFrozen) (by decide)

theorem no_start_of_handed_zero {s : State} (h : s.handed = 0) (g k : Nat) :
    ∃ m, step s (.enter g k) = .error m := by
  simp only [step]
  split
  · exact ⟨_, rfl⟩
  · simp [h]

/-- C09: in the states of `frozen_quiet` no worker function starts (the call of a Resume/Restart/Bind clears the flag) -/
theorem no_start_when_frozen {s : State} (r : Reach s) (h : s.frozen = true) :
    ∀ g k, ∃ m, step s (.enter g k) = .error m :=
  no_start_of_handed_zero (frozen_quiet r h).2.2.1

/-- property C06 (safety half): a barrier call that was not overlapped by a resumer returns nil only
    when no worker function is executing and none is about to start -/
theorem barrier_return_exact {s s' : State} {g : Nat} {a : Api} (r : Reach s) (hb : a.isBarrier = true)
    (h : step s (.ret g a true) = .ok s') (hd : s.dirty g = false) :
    s.nExec = 0 ∧ s.handed = 0 ∧ s.nHold = 0 := by
  have i := (reach_inv r).2.1
  have hbr : a.isResumer = false := by cases a <;> first | rfl | cases hb
  -- the nil return needs `checked g` or a loaded `stopped`; g is not dirty: `K` or `L`
  simp only [step, error_else_eq_ok, hbr, hb, Bool.false_eq_true, ↓reduceIte, Bool.and_self, Bool.not_eq_true',
    Bool.not_eq_false, Bool.or_eq_true, beq_iff_eq] at h
  have hq : Quiet s := h.2.2.1.elim (i.K g · hd) (i.L g · hd)
  exact ⟨hq.2.2.2.1, hq.2.2.1, hq.2.1⟩

example : ∃ s s', Reach s ∧ Api.pauseAndWait.isBarrier = true ∧
    step s (.ret 1 .pauseAndWait true) = .ok s' ∧ s.dirty 1 = false :=
  have ⟨s, s', r, h, hd⟩ := exists_reach_step (c := 2) (evs := exFrozen.take 23) (e := .ret 1 .pauseAndWait true)
    (P := fun s _ => s.dirty 1 = false) (by decide)
  ⟨s, s', r, rfl, h, hd⟩

/-! ## Budget after a plain Pause -/

/-- a plain Pause returns while one dispatcher is past reserve(): budget 1; the job is sent and
    starts: budget 0 -/
def exBudget : List Ev := [
  .call 0 .bind, .lockL 0, .ldStatusL 0 initiated, .stStatus 0 running, .unlockL 0, .ret 0 .bind true,
  .ldCurD 5 0, .ldConcD 5 2, .casCur 5 0 1 true, .ldStatusD 5 running, .ldConcR 5 2,
  .call 1 .pause, .lockL 1, .ldStatusL 1 running, .stStatus 1 paused, .unlockL 1, .ret 1 .pause true]

example : runProj (fun s => (s.budget, s.nHold, s.ws)) 2 exBudget = some (some 1, 1, paused) := by decide
example : runProj (fun s => (s.budget, s.nHold, s.handed, s.nExec)) 2 (exBudget ++ [.send 5, .enter 7 0]) = some (some 0, 0, 0, 1) := by decide
/-- a dispatcher that reserves after the Pause must give the slot back: phase `mustRelease`, not `holding` -/
example : runProj (fun s => (s.budget, s.ph 6, s.nHold, s.nRes)) 2
    (exBudget ++ [.ldCurD 6 1, .ldConcD 6 2, .casCur 6 1 2 true, .ldStatusD 6 paused]) = some (some 1, .mustRelease, 1, 1) := by decide

/-- the Pause returns while the dispatcher is between the two re-checks (phase `checked`): it is
    counted in the budget, because it may still hand its job over — the limit re-check passes -/
def exBudgetChecked : List Ev := [
  .call 0 .bind, .lockL 0, .ldStatusL 0 initiated, .stStatus 0 running, .unlockL 0, .ret 0 .bind true,
  .ldCurD 5 0, .ldConcD 5 2, .casCur 5 0 1 true, .ldStatusD 5 running,
  .call 1 .pause, .lockL 1, .ldStatusL 1 running, .stStatus 1 paused, .unlockL 1, .ret 1 .pause true]

example : runProj (fun s => (s.budget, s.ph 5, s.tk 5, s.nHold, s.nRes)) 2 exBudgetChecked = some (some 1, .checked, 1, 1, 0) := by decide
example : runProj (fun s => (s.budget, s.ph 5, s.nHold, s.handed, s.ws)) 2 (exBudgetChecked ++ [.ldConcR 5 2, .send 5])
    = some (some 1, .idle, 0, 1, paused) := by decide

theorem budget_bound {s : State} {b : Nat} (r : Reach s) (h : s.budget = some b) :
    isQuietStatus s.ws = true ∧ s.nHold + s.handed ≤ b :=
  ((reach_inv r).2.2 b h).2

theorem no_start_when_budget_zero {s : State} (r : Reach s) (h : s.budget = some 0) :
    ∀ g k, ∃ m, step s (.enter g k) = .error m := by
  have := (budget_bound r h).2
  exact no_start_of_handed_zero (by omega)

/-- property C09, second clause: at the moment a plain Pause returns, the number of jobs that may
    still start (already dispatched ones) is at most the largest configured limit; by `budget_bound`
    no job reserved later is among them -/
theorem budget_le_maxConc {s s' : State} {g b : Nat} (r : Reach s)
    (h : step s (.ret g .pause true) = .ok s') (hb : s'.budget = some b) (hn : s.budget = none) :
    b ≤ s.maxConc := by
  have h1 := executing_le_cur r
  have h2 := cur_le_maxConc r
  simp only [step, error_else_eq_ok, Api.isResumer, Api.isBarrier, Bool.false_eq_true, ↓reduceIte, Bool.false_and] at h
  obtain ⟨-, -, h⟩ := h
  -- either the budget is set to `nHold + handed ≤ cur ≤ maxConc`, or it stays `none`
  split at h <;> cases h
  · cases hb; omega
  · cases hn ▸ hb

example : ∃ s, Reach s ∧ s.budget = some 1 := exists_reach (c := 2) (evs := exBudget) (by decide)

example : ∃ s, Reach s ∧ s.budget = some 0 ∧ s.nExec = 1 :=
  exists_reach (c := 2) (evs := exBudget ++ [.send 5, .enter 7 0]) (by decide)

example : ∃ s s', Reach s ∧ step s (.ret 1 .pause true) = .ok s' ∧ s'.budget = some 1 ∧ s.budget = none :=
  exists_reach_step (c := 2) (evs := exBudget.take 16) (by decide)

/-! ## Why guards (a) and (b) are there

  Without `b == s.ws` in `.ldCurB` and without `.lockL` clearing `bst`/`checked` these runs would be accepted and end in
    cexFrozen                      frozen = true, ws = running, dirty 2 = false
    cexFrozen ++ cexFrozenStart    frozen = true, nExec = 1        (a start while frozen)
    cexStopped1                    ws = stopped, nHold = 1, cur = 1
    cexStopped2                    ws = stopped, nHold = 1, cur = 1
  With the guards each is rejected at the event that uses the stale barrier result. -/

/-- stale `bst`: goroutine 2 loaded the status `paused` long before its PauseAndWait; a Resume
    completed in between; under the lock only `cur` is loaded -/
def cexFrozen : List Ev := [
  .call 0 .bind, .lockL 0, .stStatus 0 running, .unlockL 0, .ret 0 .bind true,
  .call 1 .pause, .lockL 1, .stStatus 1 paused, .unlockL 1, .ret 1 .pause true,
  .ldStatusB 2 paused,
  .call 0 .resume, .lockL 0, .stStatus 0 running, .unlockL 0, .ret 0 .resume true,
  .call 2 .pauseAndWait, .lockL 2, .ldCurB 2 0, .unlockL 2, .ret 2 .pauseAndWait true]

def cexFrozenStart : List Ev :=
  [.ldCurD 5 0, .ldConcD 5 2, .casCur 5 0 1 true, .ldStatusD 5 running, .ldConcR 5 2, .send 5, .enter 7 0]

/-- stale `bst` inside one Stop call: status loaded before the lock, Resume in between -/
def cexStopped1 : List Ev := [
  .call 0 .bind, .lockL 0, .stStatus 0 running, .unlockL 0, .ret 0 .bind true,
  .call 1 .pause, .lockL 1, .stStatus 1 paused, .unlockL 1, .ret 1 .pause true,
  .call 2 .stop, .ldStatusB 2 paused,
  .call 0 .resume, .lockL 0, .stStatus 0 running, .unlockL 0, .ret 0 .resume true,
  .lockL 2, .ldCurB 2 0,
  .ldCurD 5 0, .ldConcD 5 2, .casCur 5 0 1 true, .ldStatusD 5 running, .ldConcR 5 2,
  .stStatus 2 stopped]

/-- stale `checked`: computed in a first critical section, used in a second one -/
def cexStopped2 : List Ev := [
  .call 0 .bind, .lockL 0, .stStatus 0 running, .unlockL 0, .ret 0 .bind true,
  .call 2 .stop, .lockL 2, .stStatus 2 paused, .ldStatusB 2 paused, .ldCurB 2 0, .unlockL 2,
  .call 0 .resume, .lockL 0, .stStatus 0 running, .unlockL 0, .ret 0 .resume true,
  .ldCurD 5 0, .ldConcD 5 2, .casCur 5 0 1 true, .ldStatusD 5 running, .ldConcR 5 2,
  .lockL 2, .stStatus 2 stopped]

/-- accepted up to and including `lockL 2`, rejected at `ldCurB 2 0` ("cur loaded before status") -/
example : runProj (fun s => (s.frozen, s.bst 2)) 2 (cexFrozen.take 18) = some (false, none) := by decide
example : runProj (·.frozen) 2 (cexFrozen.take 19) = none := by decide
example : runProj (·.frozen) 2 cexFrozen = none := by decide
/-- … and if goroutine 2 evaluates its condition properly (status load under the lock: `running`),
    `checked` is not set and the nil return is rejected: `frozen` is never reached on this trace -/
example : runProj (fun s => (s.frozen, s.checked 2)) 2
    (cexFrozen.take 18 ++ [.ldStatusB 2 running, .ldCurB 2 0, .unlockL 2]) = some (false, false) := by decide
example : runProj (·.frozen) 2
    (cexFrozen.take 18 ++ [.ldStatusB 2 running, .ldCurB 2 0, .unlockL 2, .ret 2 .pauseAndWait true]) = none := by decide

/-- rejected at `ldCurB 2 0` (event 19) -/
example : runProj (·.ws) 2 (cexStopped1.take 18) = some running := by decide
example : runProj (·.ws) 2 (cexStopped1.take 19) = none := by decide
example : runProj (·.ws) 2 cexStopped1 = none := by decide

/-- accepted up to the second `lockL 2` (event 22), which clears `checked 2`; the store of `stopped` is rejected -/
example : runProj (fun s => (s.ws, s.nHold, s.checked 2)) 2 (cexStopped2.take 22) = some (running, 1, false) := by decide
example : runProj (·.ws) 2 cexStopped2 = none := by decide

end Res
end VarmqVerif

section Axioms
open VarmqVerif.Res
#print axioms acc_inv
#print axioms cur_le_maxConc
#print axioms executing_le_maxConc
#print axioms executing_le_cur
#print axioms read_cur_le_maxConc
#print axioms stopped_quiet
#print axioms frozen_quiet
#print axioms no_start_when_frozen
#print axioms barrier_return_exact
#print axioms budget_bound
#print axioms no_start_when_budget_zero
#print axioms budget_le_maxConc
#print axioms holding_within_limit
#print axioms recheck_gives_back
#print axioms taken_le_cur
#print axioms taken_bounds
#print axioms holding_taken_le
end Axioms
