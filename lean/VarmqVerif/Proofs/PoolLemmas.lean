import VarmqVerif.Model.Pool
import VarmqVerif.Proofs.Guard

namespace VarmqVerif
namespace Pool

/-- sentinels pending in the node channel (0 or 1) -/
def pend (nd : Node) : Nat := if nd.buf = some .stop then 1 else 0

/-- what the location NEEDS: the servers a node there must have once a pending sentinel has been consumed -/
def live : Loc → Nat
  | .held _ | .idle | .inflight => 1
  | _ => 0

theorem live_le_one (l : Loc) : live l ≤ 1 := by cases l <;> simp [live]

/-- what the node HAS: the servers that remain once a pending sentinel has been consumed (`Pool.eff_eq_live`: the two agree) -/
def eff (nd : Node) : Nat := nd.srvs.length - (if nd.buf = some .stop then 1 else 0)

/-- What holds of one node. `cnt` is the server accounting everything else rests on: the goroutines in `Serve`
    are those the location needs plus one per pending sentinel. -/
structure NOK (nd : Node) : Prop where
  nodup : nd.srvs.Nodup
  cnt : nd.srvs.length = pend nd + live nd.loc
  job_inflight : ∀ j, nd.buf = some (.job j) → nd.loc = .inflight
  inflight_job : nd.loc = .inflight → ∃ j, nd.buf = some (.job j)

structure Inv (s : State) : Prop where
  nodup : s.idle.Nodup
  mem : ∀ n, n ∈ s.idle ↔ (s.nodes n).loc = .idle
  node : ∀ n, NOK (s.nodes n)

theorem Inv.init : Inv init := by
  refine ⟨by simp [Pool.init], by simp [Pool.init], fun n => ?_⟩
  constructor <;> simp [Pool.init, pend, live]

theorem NOK.move {nd : Node} (h : NOK nd) {l₀ l : Loc} (h0 : nd.loc = l₀) (hl : live l = live l₀) (ho : l₀ ≠ .inflight)
    (hn : l ≠ .inflight) : NOK { nd with loc := l } :=
  ⟨h.nodup, by simpa [pend, hl, h0] using h.cnt, fun j hj => absurd (h0 ▸ h.job_inflight j hj) ho, fun h => absurd h hn⟩

theorem Inv.set {s : State} (h : Inv s) {n : Nat} {v : Node} {l : List Nat} (hv : NOK v) (hl : l.Nodup)
    (hm : ∀ m, m ∈ l ↔ if m = n then v.loc = .idle else m ∈ s.idle) :
    Inv { nodes := upd s.nodes n v, idle := l } := by
  refine ⟨hl, fun m => ?_, fun m => ?_⟩ <;> simp only [Pool.upd]
  · rw [hm]
    split <;> simp [h.mem]
  · split
    · exact hv
    · exact h.node m

/-- `Inv.set` for a node that is idle neither before nor after: the idle list stays -/
theorem Inv.set_out {s : State} (h : Inv s) {n : Nat} {v : Node} (hv : NOK v) (ho : (s.nodes n).loc ≠ .idle)
    (hn : v.loc ≠ .idle) : Inv { s with nodes := upd s.nodes n v } :=
  h.set hv h.nodup fun m => by
    split
    · subst m; simp [h.mem, ho, hn]
    · rfl

theorem Inv.step {s s' : State} {e : Ev} (h : Inv s) (hs : step s e = .ok s') : Inv s' := by
  have hn := h.node
  cases e
  case get g n =>
    simp [Pool.step] at hs
    obtain ⟨hl, rfl⟩ := hs
    rcases hl with hl | hl <;> exact h.set_out ((hn n).move hl rfl nofun nofun) (by simp [hl]) nofun
  case put g n =>
    simp [Pool.step] at hs
    obtain ⟨hl, rfl⟩ := hs
    exact h.set_out ((hn n).move hl rfl nofun nofun) (by simp [hl]) nofun
  case push g n =>
    simp [Pool.step] at hs
    obtain ⟨hl, hni, rfl⟩ := hs
    refine h.set ((hn n).move hl rfl nofun nofun) ?_ fun m => ?_
    · simpa [List.nodup_append, h.nodup] using fun a ha (e : a = n) => hni (e ▸ ha)
    · by_cases hm : m = n <;> simp [hm]
  case pop g n =>
    cases n <;> simp [Pool.step] at hs
    · exact hs.2 ▸ h
    · rename_i n
      obtain ⟨hlast, rfl⟩ := hs
      obtain ⟨ys, hys⟩ := List.getLast?_eq_some_iff.1 hlast
      have hnd := h.nodup
      have hi := (h.mem n).1 (by simp [hys])
      simp only [hys, List.dropLast_concat, List.nodup_append] at hnd ⊢
      refine h.set ((hn n).move hi rfl nofun nofun) hnd.1 fun m => ?_
      by_cases hm : m = n <;> simp [hm, hys]
      exact fun hy => hnd.2.2 n hy n (by simp) rfl
  case remove g n ok =>
    simp [Pool.step] at hs
    obtain ⟨rfl, hs⟩ := hs
    split at hs <;> cases hs
    · rename_i hmem
      have hmem : n ∈ s.idle := by simpa using hmem
      refine h.set ((hn n).move ((h.mem n).1 hmem) rfl nofun nofun) (h.nodup.erase n) fun m => ?_
      by_cases hm : m = n <;> simp [hm, h.nodup.mem_erase_iff]
    · exact h
  -- The remaining events change what the node holds; the node is not idle before or after. `cnt` balances
  -- event by event: `spawn` adds a server and `fresh → held` needs one more; `sendStop` adds a pending sentinel
  -- and `held → stopping` needs one less; `sendJob` (`held → inflight`) and the receipt of a job
  -- (`inflight → held`) change neither side; the receipt of the sentinel removes one of each.
  case spawn g n r | sendJob g n j | sendStop g n =>
    simp [Pool.step] at hs
    obtain ⟨hl, hb, rfl⟩ := hs
    obtain ⟨w1, w2, w3, w4⟩ := hn n
    refine h.set_out ?_ (by simp [hl]) nofun
    constructor <;> simp_all [pend, live]
  case recv r n m =>
    simp [Pool.step] at hs
    obtain ⟨hr, hb, hs⟩ := hs
    obtain ⟨w1, w2, w3, w4⟩ := hn n
    cases m <;> cases hs
    · have hl := w3 _ hb
      exact h.set_out ⟨w1, by simpa [pend, live, hl, hb] using w2, nofun, nofun⟩ (by simp [hl]) nofun
    · -- the server that takes the sentinel leaves; the node stays where it is
      refine h.set ⟨w1.erase r, ?_, by simp, fun hi => ?_⟩ h.nodup fun m => ?_
      · simp only [List.length_erase_of_mem hr]
        simp [pend, hb] at w2 ⊢
        omega
      · obtain ⟨j, hj⟩ := w4 hi
        simp [hb] at hj
      · by_cases hm : m = n <;> simp [hm, h.mem]

theorem Inv.of_reach {s : State} (h : Reach s) : Inv s := by
  induction h with
  | init => exact Inv.init
  | step e _ hs ih => exact ih.step hs

end Pool
end VarmqVerif
