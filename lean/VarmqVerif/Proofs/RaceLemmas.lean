/-
  Lemmas for the happens-before race detector `Race` (Model/Race.lean).

  An HB chain ends with a last edge (`HB.last`), so what happens before position n is determined by the
  event at n and by what happens before, or is, an earlier event of three kinds (`hb_last`):
  `Upto tr (owner t) n i`: position i is, or happens before, an event at a position < n that goroutine t
  owns (an event of t, or the `go` statement that started t); `Upto tr (rels o) n i`: … an event at a
  position < n that releases o. The detector's masks hold exactly these sets: `step_tm`, `step_om`,
  `step_accs`, `step_reports` say what one step does in one form for all event kinds, `Inv` is the
  invariant of `run (tr.take n)`, `mem_detect` what is reported.
-/
import VarmqVerif.Model.Race

namespace VarmqVerif
namespace Race

theorem Map.get_nil (k : Nat) : Map.get [] k = 0 := rfl

theorem Map.get_set (m : Map) (k v k' : Nat) :
    Map.get (Map.set m k v) k' = if k' = k then v else Map.get m k' := by
  fun_induction Map.set m k v <;> grind [Map.get]

theorem Map.testBit_get_set (m : Map) (k v k' i : Nat) :
    ((m.set k v).get k').testBit i = if k' = k then v.testBit i else (m.get k').testBit i := by
  rw [Map.get_set]; split <;> rfl

theorem testBit_bit (k i : Nat) : (bit k).testBit i = decide (k = i) := by
  simp [bit, Nat.one_shiftLeft, Nat.testBit_two_pow]

theorem Edge.lt {tr : List Ev} {i j : Nat} (h : Edge tr i j) : i < j := h.1

theorem HB.lt {tr : List Ev} {i j : Nat} (h : HB tr i j) : i < j := by
  induction h with
  | edge h => exact h.1
  | trans _ _ ih1 ih2 => omega

theorem HB.last {tr : List Ev} {i k : Nat} (h : HB tr i k) :
    ∃ j, Edge tr j k ∧ (i = j ∨ HB tr i j) := by
  induction h with
  | edge h => exact ⟨_, h, Or.inl rfl⟩
  | trans h1 _ _ ih2 =>
    obtain ⟨j', he, hj⟩ := ih2
    refine ⟨j', he, Or.inr ?_⟩
    cases hj with
    | inl h => subst h; exact h1
    | inr h => exact HB.trans h1 h

theorem HB.snoc {tr : List Ev} {i j k : Nat} (h : i = j ∨ HB tr i j) (he : Edge tr j k) :
    HB tr i k := by
  cases h with
  | inl h => subst h; exact HB.edge he
  | inr h => exact HB.trans h (HB.edge he)

def owner (t : Nat) (e : Ev) : Prop := e.thread = t ∨ ∃ u, e = .fork u t

def Upto (tr : List Ev) (P : Ev → Prop) (n i : Nat) : Prop :=
  ∃ j, j < n ∧ ∃ e, tr[j]? = some e ∧ P e ∧ (i = j ∨ HB tr i j)

def rels (o : Nat) (e : Ev) : Prop := e.releases = some o

theorem Upto_succ {tr : List Ev} {n : Nat} {e : Ev} (h : tr[n]? = some e) (P : Ev → Prop) (i : Nat) :
    Upto tr P (n + 1) i ↔ Upto tr P n i ∨ (P e ∧ (i = n ∨ HB tr i n)) := by
  constructor
  · rintro ⟨j, hj, e', he', ho, hi⟩
    by_cases hjn : j = n
    · subst hjn
      cases h.symm.trans he'
      exact Or.inr ⟨ho, hi⟩
    · exact Or.inl ⟨j, by omega, e', he', ho, hi⟩
  · rintro (⟨j, hj, e', he', ho, hi⟩ | ⟨ho, hi⟩)
    · exact ⟨j, by omega, e', he', ho, hi⟩
    · exact ⟨n, by omega, e, h, ho, hi⟩

theorem hb_last {tr : List Ev} {n : Nat} {f : Ev} (h : tr[n]? = some f) (i : Nat) :
    HB tr i n ↔
      Upto tr (owner f.thread) n i
      ∨ (∃ o, f.acquires = some o ∧ Upto tr (rels o) n i)
      ∨ (∃ t o, f = .join t o ∧ Upto tr (owner o) n i) := by
  constructor
  · intro hb
    obtain ⟨j, ⟨hlt, e, f', he, hf', hd⟩, hij⟩ := HB.last hb
    rw [h] at hf'
    cases hf'
    rcases hd with hd | ⟨t, hd⟩ | ⟨t, o, hf, hd⟩ | ⟨o, hr, ha⟩
    · exact Or.inl ⟨j, hlt, e, he, Or.inl hd, hij⟩
    · exact Or.inl ⟨j, hlt, e, he, Or.inr ⟨t, hd⟩, hij⟩
    · exact Or.inr (Or.inr ⟨t, o, hf, j, hlt, e, he, hd, hij⟩)
    · exact Or.inr (Or.inl ⟨o, ha, j, hlt, e, he, hr, hij⟩)
  · rintro (⟨j, hlt, e, he, ho, hij⟩ | ⟨o, ha, j, hlt, e, he, hr, hij⟩ | ⟨t, o, hf, j, hlt, e, he, ho, hij⟩)
    · refine HB.snoc hij ⟨hlt, e, f, he, h, ?_⟩
      rcases ho with ho | ⟨u, ho⟩
      · exact Or.inl ho
      · exact Or.inr (Or.inl ⟨u, ho⟩)
    · exact HB.snoc hij ⟨hlt, e, f, he, h, Or.inr (Or.inr (Or.inr ⟨o, hr, ha⟩))⟩
    · exact HB.snoc hij ⟨hlt, e, f, he, h, Or.inr (Or.inr (Or.inl ⟨t, o, hf, ho⟩))⟩

/-- the mask the detector computes for the event e at position `s.n`: the positions it takes to
    happen before e (or to be e) -/
def Pre (s : State) (e : Ev) (i : Nat) : Prop :=
  i = s.n
  ∨ (s.tm.get e.thread).testBit i = true
  ∨ (∃ o, e.acquires = some o ∧ (s.om.get o).testBit i = true)
  ∨ (∃ t o, e = .join t o ∧ (s.tm.get o).testBit i = true)

theorem step_n (s : State) (e : Ev) : (step s e).n = s.n + 1 := by
  cases e <;> rfl

/- For each kind of event, unfold the step: a mask read back through `Map.testBit_get_set` is a
   disjunction of bit tests, and both sides are the same propositional combination of them. -/

theorem step_tm (s : State) (e : Ev) (t i : Nat) :
    ((step s e).tm.get t).testBit i = true ↔
      (s.tm.get t).testBit i = true ∨ (owner t e ∧ Pre s e i) := by
  cases e <;>
    simp [step, Map.testBit_get_set, Nat.testBit_or, testBit_bit, owner, Pre, Ev.thread, Ev.acquires] <;>
    grind

theorem step_om (s : State) (e : Ev) (o i : Nat) :
    ((step s e).om.get o).testBit i = true ↔
      (s.om.get o).testBit i = true ∨ (e.releases = some o ∧ Pre s e i) := by
  cases e <;>
    simp [step, Map.testBit_get_set, Nat.testBit_or, testBit_bit, Pre, Ev.thread, Ev.acquires,
      Ev.releases] <;>
    grind

/-- a memory access acquires nothing and joins nobody -/
theorem pre_access {s : State} {e : Ev} {p} (h : e.access = some p) (i : Nat) :
    Pre s e i ↔ (s.tm.get e.thread ||| bit s.n).testBit i = true := by
  cases e <;> cases h <;>
    simp [Pre, Ev.acquires, Ev.thread, Nat.testBit_or, testBit_bit] <;> grind

theorem step_accs_eq (s : State) (e : Ev) :
    (step s e).accs = match e.access with
      | some (a, sz, w, k) => ⟨s.n, e.thread, a, sz, w, k⟩ :: s.accs
      | none => s.accs := by
  cases e <;> rfl

theorem step_reports_eq (s : State) (e : Ev) :
    (step s e).reports = match e.access with
      | some (a, sz, w, k) => s.reports ++
          (s.accs.filter fun x =>
            conflicts x e.thread a sz w && !((s.tm.get e.thread ||| bit s.n).testBit x.idx)).map
            fun x => ⟨x.idx, s.n, x.site, k⟩
      | none => s.reports := by
  cases e <;> rfl

theorem step_accs (s : State) (e : Ev) (x : Acc) :
    x ∈ (step s e).accs ↔
      x ∈ s.accs
      ∨ (e.access = some (x.addr, x.size, x.write, x.site) ∧ x.idx = s.n ∧ x.t = e.thread) := by
  rw [step_accs_eq]
  split <;> simp [*]
  grind [cases Acc]

theorem step_reports (s : State) (e : Ev) (r : Report) :
    r ∈ (step s e).reports ↔
      r ∈ s.reports
      ∨ (r.j = s.n ∧ ∃ t a sz w, ⟨r.i, t, a, sz, w, r.siteI⟩ ∈ s.accs ∧
          ∃ b u x, e.access = some (b, u, x, r.siteJ) ∧
            overlap a sz b u = true ∧ (w = true ∨ x = true) ∧ t ≠ e.thread ∧ ¬ Pre s e r.i) := by
  rw [step_reports_eq]
  split
  next a sz w k h =>
    simp only [h, pre_access h, conflicts, List.mem_append, List.mem_map, List.mem_filter]
    grind [cases Report, cases Acc]
  next h => simp [h]

def IsAcc (tr : List Ev) (n : Nat) (x : Acc) : Prop :=
  x.idx < n ∧ ∃ e, tr[x.idx]? = some e ∧
    e.access = some (x.addr, x.size, x.write, x.site) ∧ x.t = e.thread

/-- r names a race pair and the source sites of its two accesses -/
def RaceRep (tr : List Ev) (r : Report) : Prop :=
  r.i < r.j ∧ ∃ e f a s w b u x, tr[r.i]? = some e ∧ tr[r.j]? = some f ∧
    e.access = some (a, s, w, r.siteI) ∧ f.access = some (b, u, x, r.siteJ) ∧
    overlap a s b u = true ∧ (w = true ∨ x = true) ∧ e.thread ≠ f.thread ∧ ¬ HB tr r.i r.j

theorem RaceRep.racePair {tr : List Ev} {r : Report} (h : RaceRep tr r) : RacePair tr r.i r.j := by
  obtain ⟨hlt, e, f, a, s, w, b, u, x, h1, h2, h3, h4, h5, h6, h7, h8⟩ := h
  exact ⟨hlt, e, f, a, s, w, r.siteI, b, u, x, r.siteJ, h1, h2, h3, h4, h5, h6, h7, h8⟩

structure Inv (tr : List Ev) (n : Nat) (s : State) : Prop where
  hn : s.n = n
  htm : ∀ t i, (s.tm.get t).testBit i = true ↔ Upto tr (owner t) n i
  hom : ∀ o i, (s.om.get o).testBit i = true ↔ Upto tr (rels o) n i
  hacc : ∀ x, x ∈ s.accs ↔ IsAcc tr n x
  hrep : ∀ r, r ∈ s.reports ↔ r.j < n ∧ RaceRep tr r

theorem inv_init (tr : List Ev) : Inv tr 0 {} where
  hn := rfl
  htm t i := by simp [Map.get_nil, Upto]
  hom o i := by simp [Map.get_nil, Upto]
  hacc x := by simp [IsAcc]
  hrep r := by simp

theorem pre_iff {tr : List Ev} {n : Nat} {s : State} {e : Ev} (inv : Inv tr n s)
    (h : tr[n]? = some e) (i : Nat) : Pre s e i ↔ (i = n ∨ HB tr i n) := by
  simp only [Pre, hb_last h, inv.hn, inv.htm, inv.hom]

theorem inv_step {tr : List Ev} {n : Nat} {s : State} {e : Ev} (inv : Inv tr n s)
    (h : tr[n]? = some e) : Inv tr (n + 1) (step s e) where
  hn := by rw [step_n, inv.hn]
  htm t i := by rw [step_tm, Upto_succ h, inv.htm, pre_iff inv h]
  hom o i := by rw [step_om, Upto_succ h, inv.hom, pre_iff inv h, rels]
  hacc x := by
    rw [step_accs, inv.hacc, inv.hn]
    constructor
    · rintro (⟨hlt, e', he', ha, ht⟩ | ⟨ha, rfl, ht⟩)
      · exact ⟨by omega, e', he', ha, ht⟩
      · exact ⟨Nat.lt_succ_self _, e, h, ha, ht⟩
    · rintro ⟨hlt, e', he', ha, ht⟩
      by_cases hi : x.idx = n
      · subst hi
        cases h.symm.trans he'
        exact Or.inr ⟨ha, rfl, ht⟩
      · exact Or.inl ⟨by omega, e', he', ha, ht⟩
  hrep r := by
    rw [step_reports, inv.hrep, inv.hn]
    constructor
    · rintro (⟨hlt, hr⟩ | ⟨rfl, t, a, sz, w, hx, b, u, x, ha, ho, hw, ht, hp⟩)
      · exact ⟨by omega, hr⟩
      · obtain ⟨hlt, e', he', ha', rfl⟩ := (inv.hacc _).1 hx
        exact ⟨Nat.lt_succ_self _, hlt, e', e, a, sz, w, b, u, x, he', h, ha', ha, ho, hw, ht,
          fun hb => hp ((pre_iff inv h _).2 (Or.inr hb))⟩
    · rintro ⟨hlt, hr⟩
      by_cases hj : r.j = n
      · subst hj
        obtain ⟨hij, e0, f, a, sz, w, b, u, x, h1, h2, h3, h4, h5, h6, h7, h8⟩ := hr
        cases h.symm.trans h2
        refine Or.inr ⟨rfl, e0.thread, a, sz, w, (inv.hacc _).2 ⟨hij, e0, h1, h3, rfl⟩, b, u, x, h4, h5, h6, h7, ?_⟩
        rw [pre_iff inv h]
        rintro (hb | hb)
        · omega
        · exact h8 hb
      · exact Or.inl ⟨by omega, hr⟩

theorem inv_take (tr : List Ev) (n : Nat) (hn : n ≤ tr.length) : Inv tr n (run (tr.take n)) := by
  induction n with
  | zero => exact inv_init tr
  | succ n ih =>
    have hlt : n < tr.length := by omega
    have h : tr[n]? = some tr[n] := List.getElem?_eq_getElem hlt
    have := inv_step (ih (by omega)) h
    rw [run, List.take_add_one, h, Option.toList_some, List.foldl_append]
    exact this

theorem inv_run (tr : List Ev) : Inv tr tr.length (run tr) := by
  have := inv_take tr tr.length (Nat.le_refl _)
  rwa [List.take_length] at this

theorem mem_detect {tr : List Ev} {r : Report} : r ∈ detect tr ↔ RaceRep tr r :=
  ((inv_run tr).hrep r).trans <| and_iff_right_of_imp
    -- `RaceRep` contains `tr[r.j]? = some f` (`h2`), hence `r.j < tr.length`: the bound in `hrep` is implied at `n = tr.length`
    fun ⟨_, _, _, _, _, _, _, _, _, _, h2, _⟩ => (List.getElem?_eq_some_iff.1 h2).1

end Race
end VarmqVerif
