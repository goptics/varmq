/-
  Theorems about VarmqVerif/Model/Codec.lean (job status codec of /repo/job.go).
-/
import VarmqVerif.Model.Codec

namespace VarmqVerif
namespace Codec

theorem toNat_strictMono :
    JStatus.created.toNat < JStatus.queued.toNat ∧
    JStatus.queued.toNat < JStatus.processing.toNat ∧
    JStatus.processing.toNat < JStatus.finished.toNat ∧
    JStatus.finished.toNat < JStatus.closed.toNat := by decide

theorem toNat_lt_five (s : JStatus) : s.toNat < 5 := by cases s <;> decide

theorem ofNat?_toNat (s : JStatus) : JStatus.ofNat? s.toNat = some s := by cases s <;> rfl

theorem toNat_injective {a b : JStatus} (h : a.toNat = b.toNat) : a = b := by
  have := congrArg JStatus.ofNat? h
  rw [ofNat?_toNat, ofNat?_toNat] at this
  exact Option.some.inj this

theorem ofNat?_eq_some_iff (n : Nat) (s : JStatus) : JStatus.ofNat? n = some s ↔ n = s.toNat := by
  constructor
  · intro h
    match n, h with
    | 0, h | 1, h | 2, h | 3, h | 4, h => cases h; rfl
    | n + 5, h => cases h
  · rintro rfl; exact ofNat?_toNat s

theorem mem_all (s : JStatus) : s ∈ JStatus.all := by cases s <;> decide

/-- `Status()` of an out-of-range status word is "Unknown", which `parseToJob` rejects: such a job
(unreachable: only the five constants are ever stored) would not survive a round trip. -/
theorem renderNat_unknown (n : Nat) (h : 5 ≤ n) : renderNat n = "Unknown" := by
  match n, h with
  | n + 5, _ => rfl

theorem parse_unknown : parse "Unknown" = none := by decide

theorem parse_renderNat (n : Nat) : parse (renderNat n) = JStatus.ofNat? n := by
  match n with
  | 0 | 1 | 2 | 3 | 4 => decide
  | n + 5 => exact parse_unknown

theorem parse_render (s : JStatus) : parse (render s) = some s := by
  rw [render, parse_renderNat, ofNat?_toNat]

theorem statusStrings_eq : statusStrings = JStatus.all.map (fun s => (s.toNat, render s)) := by
  decide

/-- Both `switch` statements agree with the table. -/
theorem statusStrings_sound :
    ∀ p ∈ statusStrings, renderNat p.1 = p.2 ∧ (parse p.2).map JStatus.toNat = some p.1 := by
  rw [statusStrings_eq]
  intro p hp
  obtain ⟨s, _, rfl⟩ := List.mem_map.mp hp
  exact ⟨rfl, by rw [parse_render]; rfl⟩

theorem render_mem_table (s : JStatus) : (s.toNat, render s) ∈ statusStrings := by
  rw [statusStrings_eq]; exact List.mem_map_of_mem (f := fun s => (s.toNat, render s)) (mem_all s)

theorem render_injective {a b : JStatus} (h : render a = render b) : a = b := by
  have h1 := parse_render a
  rw [h, parse_render b] at h1
  exact (Option.some.inj h1).symm

/-- The `switch` of `parseToJob`, branch by branch. -/
theorem parse_cases (str : String) :
    (∃ s, str = render s ∧ parse str = some s) ∨ ((∀ s, str ≠ render s) ∧ parse str = none) := by
  unfold parse
  by_cases h0 : str = "Created"; · exact .inl ⟨.created, h0, if_pos h0⟩
  by_cases h1 : str = "Queued"; · exact .inl ⟨.queued, h1, by rw [if_neg h0, if_pos h1]⟩
  by_cases h2 : str = "Processing"; · exact .inl ⟨.processing, h2, by rw [if_neg h0, if_neg h1, if_pos h2]⟩
  by_cases h3 : str = "Finished"; · exact .inl ⟨.finished, h3, by rw [if_neg h0, if_neg h1, if_neg h2, if_pos h3]⟩
  by_cases h4 : str = "Closed"; · exact .inl ⟨.closed, h4, by rw [if_neg h0, if_neg h1, if_neg h2, if_neg h3, if_pos h4]⟩
  exact .inr ⟨fun s => by cases s <;> assumption, by rw [if_neg h0, if_neg h1, if_neg h2, if_neg h3, if_neg h4]⟩

/-- Exactly the five strings of `Status()` are accepted (case-sensitive, no
trimming), and each is mapped back to its own constant. -/
theorem parse_some_iff (str : String) (s : JStatus) : parse str = some s ↔ str = render s := by
  refine ⟨fun h => ?_, by rintro rfl; exact parse_render s⟩
  rcases parse_cases str with ⟨s', h1, h2⟩ | ⟨_, h2⟩ <;> rw [h2] at h
  · cases h; exact h1
  · cases h

theorem parse_none_iff (str : String) : parse str = none ↔ ∀ s, str ≠ render s := by
  constructor
  · intro h s hs
    rw [(parse_some_iff str s).mpr hs] at h
    cases h
  · intro h
    cases hp : parse str with
    | none => rfl
    | some s => exact absurd ((parse_some_iff str s).mp hp) (h s)

theorem parse_none_iff' (str : String) :
    parse str = none ↔
      str ≠ "Created" ∧ str ≠ "Queued" ∧ str ≠ "Processing" ∧ str ≠ "Finished" ∧
        str ≠ "Closed" := by
  rw [parse_none_iff]
  exact ⟨fun h => ⟨h .created, h .queued, h .processing, h .finished, h .closed⟩,
    fun ⟨h0, h1, h2, h3, h4⟩ s => by cases s <;> assumption⟩

/-! ## Json / parseToJob -/

theorem envelope_roundtrip_eq {π : Type} (j : Job π) : parseToJob (toEnvelope j) = .ok j := by
  simp [parseToJob, toEnvelope, parse_render]

theorem envelope_roundtrip {π : Type} (j : Job π) :
    ∃ j', parseToJob (toEnvelope j) = .ok j' ∧
      j'.id = j.id ∧ j'.status = j.status ∧ j'.payload = j.payload :=
  ⟨j, envelope_roundtrip_eq j, rfl, rfl, rfl⟩

theorem parseToJob_ok_iff {π : Type} (e : Envelope π) (j : Job π) :
    parseToJob e = .ok j ↔ e = toEnvelope j := by
  constructor
  · intro h
    unfold parseToJob at h
    split at h
    · next s hs =>
      cases h
      cases e
      cases (parse_some_iff _ _).mp hs
      rfl
    · cases h
  · rintro rfl; exact envelope_roundtrip_eq j

theorem parse_invalid {π : Type} (e : Envelope π) (h : ∀ s, e.status ≠ render s) :
    parseToJob e = .error ("invalid status: " ++ e.status) := by
  simp [parseToJob, (parse_none_iff e.status).mpr h]

theorem parseToJob_error_iff {π : Type} (e : Envelope π) (m : String) :
    parseToJob e = .error m ↔ (∀ s, e.status ≠ render s) ∧ m = "invalid status: " ++ e.status := by
  constructor
  · intro h
    unfold parseToJob at h
    split at h
    · cases h
    · next hn =>
      injection h with h
      exact ⟨(parse_none_iff _).mp hn, h.symm⟩
  · rintro ⟨h, rfl⟩; exact parse_invalid e h

example : parse "Processing" = some .processing := by decide
example : parse "processing" = none := by decide       -- case-sensitive
example : parse " Closed" = none := by decide          -- no trimming
example : parse "" = none := by decide                 -- a missing "status" field
example : render .finished = "Finished" := by decide
example : parseToJob (toEnvelope { id := "a", status := .queued, payload := (7 : Nat) }) =
    .ok { id := "a", status := .queued, payload := 7 } := envelope_roundtrip_eq _
example : ∀ s, ({ id := "x", status := "Done", payload := () } : Envelope Unit).status ≠ render s := by
  intro s; cases s <;> decide
example : (parseToJob ({ id := "x", status := "Done", payload := () } : Envelope Unit)).toOption.isNone
    = true := by decide

#print axioms toNat_strictMono
#print axioms statusStrings_eq
#print axioms statusStrings_sound
#print axioms parse_render
#print axioms render_injective
#print axioms parse_some_iff
#print axioms parse_none_iff'
#print axioms envelope_roundtrip
#print axioms parseToJob_ok_iff
#print axioms parse_invalid
#print axioms parseToJob_error_iff

end Codec
end VarmqVerif
