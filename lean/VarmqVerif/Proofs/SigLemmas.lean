/-
  The inductive invariant of the wake-up protocol model `Sig` (Model/Sig.lean): clause (A) is the
  no-lost-wake-up theorem itself, clause (B) is what makes it inductive.
-/
import VarmqVerif.Model.Sig
import VarmqVerif.Proofs.SumOf
import VarmqVerif.Proofs.Guard

namespace VarmqVerif
namespace Sig

/-- common opening: unfold the step function for one constructor, split all guards, discard the
    error branches, and substitute the successor state -/
macro "step_cases" h:ident : tactic =>
  `(tactic| (
    simp only [step] at $h:ident
    repeat' (split at $h:ident)
    all_goals (first | (cases $h:ident; done) | skip)
    all_goals (first | (injection $h:ident with $h:ident; subst $h:ident) | skip)))

theorem reach_run {s s' : State} (hr : Reach s) (es : List Ev) (h : run s es = .ok s') : Reach s' :=
  reach_of_run step run (fun _ => rfl) (fun s e _ => by cases h : step s e <;> simp only [run, h]) Reach.step hr h

def InvA (s : State) : Prop :=
  Dispatchable s → s.tok = true ∨ 0 < s.nOwes ∨ s.dph.active = true

/-- (B) holds because `cur` only drops below a value loaded by the event loop through `relX`, which adds
    an owed notify(); a notify() turns the owed call into the token; the event loop cannot receive the
    token while it is in phase `sawCur`.  It is used at `dConc` with c ≥ conc: the loop goes to `exiting`
    although cur < conc may hold by now. -/
def InvB (s : State) : Prop :=
  ∀ c, s.dph = .sawCur c → c ≤ s.cur ∨ s.tok = true ∨ 0 < s.nOwes

def Inv (s : State) : Prop := InvA s ∧ InvB s

theorem inv_init (c : Nat) : Inv (init c) :=
  ⟨fun hd => by simp [Dispatchable, init, running] at hd, fun _ h => by simp [init] at h⟩

theorem inv_of_pending {s : State} (h : s.tok = true ∨ 0 < s.nOwes) : Inv s :=
  ⟨fun _ => h.elim .inl (.inr ∘ .inl), fun _ _ => .inr h⟩

theorem inv_of_active {s : State} (h : s.dph.active = true) (hc : ∀ c, s.dph ≠ .sawCur c) : Inv s :=
  ⟨fun _ => .inr (.inr h), fun c hp => absurd hp (hc c)⟩

/- The successful cases of `fun_cases step s e`, by number:
     4 recvTok   8 dStatus   11, 12 dCur (to sawCur, parks)   16 dConc   21 dLen   24 dCasOk   28 dDeq   33 dRel
     34 enq   36 deqX   40 relX   41, 42 stStatus (running, other)   43, 44 stConc (upwards, not)
     46, 48 notify (nothing owed, pays one) -/

theorem inv_step {s s' : State} {e : Ev} (hi : Inv s) (h : step s e = .ok s') : Inv s' := by
  have ⟨hA, hB⟩ := hi
  revert h; fun_cases step s e <;> rintro ⟨⟩
  -- enq, relX, stStatus running, stConc upwards (the events that can make the state dispatchable, or lower
  -- `cur` below a loaded value) owe a notify(); notify leaves the token
  case case34 | case40 | case41 | case43 => exact inv_of_pending (.inr (Nat.succ_pos _))
  case case46 | case48 => exact inv_of_pending (.inl rfl)
  -- recvTok; dCasOk, dDeq, dRel: the event loop is in processNextJob
  case case4 => exact inv_of_active rfl (fun _ => DPh.noConfusion)
  case case24 hb | case28 hb _ | case33 hb _ _ =>
    have hb : s.dph = .busy := by simpa using hb
    exact inv_of_active (by simp [hb, DPh.active]) (by simp [hb])
  -- stStatus other, stConc downwards, deqX: dispatchable afterwards only if it was before
  case case42 hv => exact ⟨fun hd => absurd hd.1 (by simpa using hv), hB⟩
  case case44 hv => exact ⟨fun hd => hA ⟨hd.1, by have := hd.2.1; simp only at this; omega, hd.2.2⟩, hB⟩
  case case36 => exact ⟨fun hd => hA ⟨hd.1, hd.2.1, by have := hd.2.2; simp only at this; omega⟩, hB⟩
  -- dStatus, dCur, dConc, dLen, the loop condition load by load: a component found false is false in this
  -- state; (B) at dConc: c ≥ conc and c ≤ cur, so not dispatchable, or a wake-up is in flight
  all_goals
    unfold Inv InvA InvB Dispatchable at *
    grind [DPh.active, isDisp]

/-- Clause (A) alone is not inductive: the event loop holds a stale cur = 1, compares it with
    conc = 1 and leaves, although cur = 0 by now and nobody is going to wake it. -/
theorem invA_alone_not_inductive : ∃ s e s', InvA s ∧ step s e = .ok s' ∧ ¬ InvA s' := by
  refine ⟨{ ws := running, cur := 0, conc := 1, qlen := 1, disp := some 0, dph := .sawCur 1 }, .dConc 0 1, _, ?_, rfl, ?_⟩
  · intro _; simp [DPh.active]
  · simp [InvA, Dispatchable, DPh.active]

theorem reach_inv {s : State} (hr : Reach s) : Inv s :=
  hr.rec inv_init fun _ _ h ih => inv_step ih h

def Ghost (s : State) : Prop := SumOf s.owes s.nOwes

theorem ghost_step {s s' : State} {e : Ev} (hs : Ghost s) (h : step s e = .ok s') : Ghost s' := by
  revert h; fun_cases step s e <;> rintro ⟨⟩
  -- enq, relX, stStatus running, stConc upwards owe a notify(); a notify() pays one
  case case34 | case40 | case41 | case43 => exact sumOf_incr hs _
  case case48 g _ _ hz _ => exact sumOf_decr hs g (by simpa using hz)
  all_goals exact hs

theorem reach_ghost {s : State} (hr : Reach s) : Ghost s :=
  hr.rec (fun _ => sumOf_zero) fun _ _ h ih => ghost_step ih h

end Sig
end VarmqVerif
