/-
  Theorems about the model `Trim` (Model/Trim.lean): how many workers the pool keeps.  `Reach false` is the
  current code (one-step shrink), `Reach true` the two-step shrink of the code before fix c42df87.
-/
import VarmqVerif.Model.Trim
import VarmqVerif.Proofs.Guard

namespace VarmqVerif
namespace Trim

/-- a running pool has an idle worker, or somebody is out of the list who either has to look (again) before it
    may retire, or saw an empty list and therefore has to push itself back -/
def J (s : State) : Prop :=
  s.running = true →
    1 ≤ s.idle ∨ ∃ g, s.busy g = true ∧ (s.seen g = none ∨ s.seen g = some 0)

theorem J_step {s s' : State} (e : Ev) (hJ : J s) (h : step false s e = .ok s') : J s' := by
  -- (`tuneLookOld`, `tunePopOld` are errors under `old = false`: `simp` closes them)
  cases e <;> simp [step] at h
  case start =>
    obtain ⟨-, rfl⟩ := h
    exact fun _ => .inl (by simp)
  case keep =>
    obtain ⟨-, -, rfl⟩ := h
    exact fun _ => .inl (by simp)
  -- a worker that was just taken or created has not looked yet
  case take g =>
    obtain ⟨-, -, rfl⟩ := h
    exact fun _ => .inr ⟨g, by simp⟩
  case create g =>
    obtain ⟨-, rfl⟩ := h
    exact fun _ => .inr ⟨g, by simp⟩
  case look g =>
    -- it saw an idle worker, or it saw none and so has to push itself back
    obtain ⟨hb, rfl⟩ := h
    exact fun _ => (Nat.eq_zero_or_pos s.idle).symm.imp id fun h0 => ⟨g, by simp [hb, h0]⟩
  case retire g =>
    obtain ⟨-, -, h⟩ := h
    split at h <;> simp at h
    rename_i n hn
    obtain ⟨hn0, rfl⟩ := h
    -- the worker that retires saw n ≠ 0 idle workers, so it is not the witness of the invariant
    refine fun hr => (hJ hr).imp id fun ⟨g', hb', hs'⟩ => ?_
    have hne : g' ≠ g := by
      rintro rfl
      simp [hn, hn0] at hs'
    exact ⟨g', by simp [hne, hb', hs']⟩
  case tune m =>
    obtain ⟨hm, hlt, rfl⟩ := h
    exact fun _ => .inl (by simp only; omega)
  case stopAll =>
    obtain ⟨-, rfl⟩ := h
    simp [J]

theorem inv_reach {s : State} (h : Reach false s) : J s := by
  induction h with
  | init => simp [J, init]
  | step e _ hs ih => exact J_step e ih hs

theorem idle_worker_kept {s : State} (h : Reach false s) (hr : s.running = true)
    (hq : ∀ g, s.busy g = false) : 1 ≤ s.idle := by
  rcases inv_reach h hr with hi | ⟨g, hb, _⟩
  · exact hi
  · rw [hq g] at hb
    cases hb

theorem never_empty_handed {s : State} (h : Reach false s) (hr : s.running = true) :
    1 ≤ s.idle ∨ ∃ g, s.busy g = true := by
  rcases inv_reach h hr with hi | ⟨g, hb, _⟩
  · exact Or.inl hi
  · exact Or.inr ⟨g, hb⟩

theorem tune_keeps_minimum {s s' : State} {m : Nat} (h : step false s (.tune m) = .ok s') :
    m ≤ s'.idle ∧ 1 ≤ s'.idle := by
  simp [step] at h
  obtain ⟨_, _, rfl⟩ := h
  simp only
  omega

theorem reach_run {old : Bool} {s s' : State} {es : List Ev} (h : Reach old s)
    (hrun : run old s es = .ok s') : Reach old s' :=
  reach_of_run (step old) (run old) (fun _ => rfl) (fun s e _ => by cases h : step old s e <;> simp only [run, h])
    Reach.step h hrun

/-- the run that empties the pool with the two-step shrink: the tuner looks (2 idle), a worker is taken,
    finishes, sees 1 idle worker and retires, then the tuner pops the last one -/
def oldRun : List Ev :=
  [.start, .take 1, .create 2, .keep 1, .keep 2, .tuneLookOld 9, .take 3, .look 3, .retire 3,
   .tunePopOld 9 1]

/-- the defect of the two-step shrink: a running pool with nobody out and an empty idle list -/
theorem old_shrink_can_empty_the_pool :
    ∃ s, Reach true s ∧ s.running = true ∧ (∀ g, s.busy g = false) ∧ s.idle = 0 := by
  -- the state is the one `oldRun` evaluates to; its `busy` is a nest of `upd`s over the constant `false`
  refine ⟨_, reach_run Reach.init (es := oldRun) rfl, rfl, fun g => ?_, rfl⟩
  simp only [upd]
  repeat' split
  all_goals rfl

/-- `State` has function fields, so it has no `DecidableEq`: the examples compare this projection. -/
structure View where
  running : Bool
  idle : Nat
  out : Nat
  nBusy : Nat
  busy : List Bool          -- goroutines 0 … 9
  deriving DecidableEq, Repr

def view (s : State) : View :=
  { running := s.running, idle := s.idle, out := s.out, nBusy := s.nBusy,
    busy := (List.range 10).map s.busy }

def viewOf : Except String State → Option View
  | .ok s => some (view s)
  | .error _ => none

def accepted : Except String State → Bool
  | .ok _ => true
  | .error _ => false

def newRun : List Ev := [.start, .take 1, .create 2, .keep 1, .keep 2, .tune 1]

/-- the current code accepts the prefix of `oldRun` followed by a one-step shrink, and keeps a worker -/
example : viewOf (run false init newRun) =
    some { running := true, idle := 1, out := 0, nBusy := 0, busy := List.replicate 10 false } := by
  decide

/-- … for every goroutine, not only the ten of `View`: nobody is busy at the end of `newRun` -/
example : ∃ s, run false init newRun = .ok s ∧ Reach false s ∧ s.running = true ∧ s.idle = 1 ∧
    ∀ g, s.busy g = false := by
  refine ⟨_, rfl, reach_run Reach.init (es := newRun) rfl, rfl, rfl, fun g => ?_⟩
  simp only [upd]
  repeat' split
  all_goals rfl

/-- the current code has no two-step shrink -/
example (s : State) : accepted (step false s (.tuneLookOld 9)) = false := by
  simp [step, accepted]

example : accepted (run false init [.start, .take 1, .create 2, .keep 1, .keep 2, .tuneLookOld 9]) = false := by
  decide

/-- … and `oldRun` is accepted only by the old code -/
example : accepted (run true init oldRun) = true ∧ accepted (run false init oldRun) = false := by
  decide

/-- a worker that saw an empty list cannot retire -/
example : accepted (run false init [.start, .take 1, .look 1]) = true ∧
    accepted (run false init [.start, .take 1, .look 1, .retire 1]) = false := by
  decide

example (s s1 : State) (g : Nat) (h : step false s (.look g) = .ok s1) (h0 : s.idle = 0) :
    accepted (step false s1 (.retire g)) = false := by
  simp [step] at h
  obtain ⟨-, rfl⟩ := h
  -- it saw `some 0`: every branch of `retire` is an error
  simp only [step, upd_same, h0, beq_self_eq_true, ↓reduceIte]
  repeat' split
  all_goals rfl

/-- … while a worker that saw an idle worker may -/
example : viewOf (run false init [.start, .take 1, .create 2, .keep 1, .look 2, .retire 2]) =
    some { running := true, idle := 1, out := 0, nBusy := 0, busy := List.replicate 10 false } := by
  decide

end Trim
end VarmqVerif
