import VarmqVerif.Spec.SortedQueue
import VarmqVerif.Proofs.Heap

/-!
# Lemmas about the sorted-list specification (`Spec/SortedQueue.lean`)

With distinct insertion indices `less` is total, so a multiset of items has exactly one sorted arrangement
(`sorted_unique`) and `sort` depends only on the multiset (`sort_eq_of_perm`): this is what lets
Proofs/PQRefine.lean take `sort` of the heap array as abstraction function.
-/

namespace VarmqVerif
namespace SortedQueue

open Heap PQ
variable {α : Type}

def Sorted (l : List (Item α)) : Prop := l.Pairwise (fun a b => less a b = true)

def IdxNodup (l : List (Item α)) : Prop := (l.map (·.idx)).Nodup

theorem idxNodup_cons {x : Item α} {l : List (Item α)} :
    IdxNodup (x :: l) ↔ (∀ y ∈ l, y.idx ≠ x.idx) ∧ IdxNodup l := by
  simp only [IdxNodup, List.map_cons, List.nodup_cons, List.mem_map, not_exists, not_and, ne_eq]

theorem IdxNodup.perm {l₁ l₂ : List (Item α)} (h : IdxNodup l₁) (p : l₁.Perm l₂) : IdxNodup l₂ :=
  List.Nodup.perm h (p.map _)

theorem insert_perm (x : Item α) (l : List (Item α)) : (insert x l).Perm (x :: l) := by
  induction l with
  | nil => exact .refl _
  | cons y ys ih =>
    unfold insert
    split
    · exact .refl _
    · exact (List.Perm.cons y ih).trans (List.Perm.swap x y ys)

theorem mem_insert {x z : Item α} {l : List (Item α)} : z ∈ insert x l ↔ z = x ∨ z ∈ l := by
  rw [(insert_perm x l).mem_iff]; simp

theorem length_insert (x : Item α) (l : List (Item α)) : (insert x l).length = l.length + 1 := by
  simpa using (insert_perm x l).length_eq

theorem insert_sorted (x : Item α) (l : List (Item α)) (hs : Sorted l)
    (hx : ∀ y ∈ l, y.idx ≠ x.idx) : Sorted (insert x l) := by
  induction l with
  | nil => simp [insert, Sorted]
  | cons y ys ih =>
    have ⟨hy, hys⟩ := List.pairwise_cons.mp hs
    unfold insert
    split
    next hxy =>
      exact List.pairwise_cons.mpr
        ⟨List.forall_mem_cons.mpr ⟨hxy, fun z hz => less_trans hxy (hy z hz)⟩, hs⟩
    next hxy =>
      -- distinct indices: `x` not before `y` means `y` before `x`
      have hyx := (less_total (hx y List.mem_cons_self)).resolve_right hxy
      refine List.pairwise_cons.mpr ⟨fun z hz => ?_, ih hys fun z hz => hx z (List.mem_cons_of_mem _ hz)⟩
      rcases mem_insert.mp hz with rfl | hz
      · exact hyx
      · exact hy z hz

theorem sort_perm (l : List (Item α)) : (sort l).Perm l := by
  induction l with
  | nil => exact .refl _
  | cons x xs ih => exact (insert_perm x (sort xs)).trans (ih.cons x)

theorem mem_sort {z : Item α} {l : List (Item α)} : z ∈ sort l ↔ z ∈ l := (sort_perm l).mem_iff

theorem length_sort (l : List (Item α)) : (sort l).length = l.length := (sort_perm l).length_eq

theorem sort_sorted (l : List (Item α)) (hn : IdxNodup l) : Sorted (sort l) := by
  induction l with
  | nil => simp [sort, Sorted]
  | cons x xs ih =>
    have ⟨hx, hxs⟩ := idxNodup_cons.mp hn
    exact insert_sorted x (sort xs) (ih hxs) fun y hy => hx y (mem_sort.mp hy)

theorem sorted_unique {l₁ l₂ : List (Item α)} (h₁ : Sorted l₁) (h₂ : Sorted l₂)
    (p : l₁.Perm l₂) : l₁ = l₂ := by
  refine List.Perm.eq_of_pairwise ?_ h₁ h₂ p
  intro a b _ _ hab hba
  rw [less_asymm hab] at hba
  exact absurd hba (by simp)

theorem sort_eq_of_perm {l₁ l₂ : List (Item α)} (hn : IdxNodup l₁) (p : l₁.Perm l₂) :
    sort l₁ = sort l₂ :=
  sorted_unique (sort_sorted l₁ hn) (sort_sorted l₂ (hn.perm p))
    ((sort_perm l₁).trans (p.trans (sort_perm l₂).symm))

theorem sort_cons_min (r : Item α) (l : List (Item α)) (hn : IdxNodup (r :: l))
    (hmin : ∀ x ∈ l, less x r = false) : sort (r :: l) = r :: sort l := by
  show insert r (sort l) = r :: sort l
  cases hs : sort l with
  | nil => rfl
  | cons y ys =>
    have hy : y ∈ l := mem_sort.mp (hs ▸ List.mem_cons_self)
    have : less r y = true := (less_total ((idxNodup_cons.mp hn).1 y hy).symm).resolve_right
      (Bool.eq_false_iff.mp (hmin y hy))
    simp [insert, this]

theorem sort_of_sorted (l : List (Item α)) (hn : IdxNodup l) (hs : Sorted l) : sort l = l :=
  sorted_unique (sort_sorted l hn) hs (sort_perm l)

theorem step_enq_closed (s : State α) (x : α) (p : Int) (h : s.closed = true) :
    step s (.enq x p) = (s, .bool false) := by
  simp [step, h]

theorem step_enq_open (s : State α) (x : α) (p : Int) (h : s.closed = false) :
    step s (.enq x p) =
      ({ s with insertionCount := s.insertionCount + 1,
                items := insert ⟨x, p, s.insertionCount⟩ s.items }, .bool true) := by
  simp [step, h]

theorem step_deq_nil (s : State α) (h : s.items = []) : step s .deq = (s, .item none) := by
  simp [step, h]

theorem step_deq_cons (s : State α) (y : Item α) (ys : List (Item α)) (h : s.items = y :: ys) :
    step s .deq = ({ s with items := ys }, .item (some y.val)) := by
  simp [step, h]

structure SInv (st : State α) : Prop where
  sorted : Sorted st.items
  bound  : ∀ it ∈ st.items, it.idx < st.insertionCount

theorem sinv_init : SInv (init : State α) := ⟨by simp [init, Sorted], by simp [init]⟩

theorem step_sinv (st : State α) (op : Op α) (h : SInv st) : SInv (step st op).1 := by
  fun_cases step st op
  all_goals first | exact h | skip
  case case2 x prio _ i =>
    -- accepted `Enqueue`
    refine ⟨insert_sorted _ _ h.sorted fun y hy => Nat.ne_of_lt (h.bound y hy), fun it hit => ?_⟩
    rcases mem_insert.mp hit with rfl | hit
    · exact Nat.lt_succ_self _
    · exact Nat.lt_succ_of_lt (h.bound it hit)
  case case4 y ys hi =>
    -- `Dequeue` of a non-empty queue
    have hs := h.sorted; have hb := h.bound
    rw [hi] at hs hb
    exact ⟨(List.pairwise_cons.mp hs).2, fun it hit => hb it (List.mem_cons_of_mem _ hit)⟩
  case case7 => exact ⟨List.Pairwise.nil, nofun⟩ -- `Purge`
  case case8 => exact ⟨h.sorted, h.bound⟩ -- `Close`

theorem run_sinv (st : State α) (ops : List (Op α)) (h : SInv st) : SInv (run st ops).1 := by
  induction ops generalizing st with
  | nil => exact h
  | cons op ops ih => exact ih _ (step_sinv st op h)

/-- `Dequeue` on the specification: the returned value belongs to the pending item with the
*smallest priority*, and among the pending items of that priority to the one with the *smallest
insertion index*, i.e. the one accepted first; exactly that item is removed.  `none` is returned only
when nothing is pending (`deq_none_iff`). -/
theorem deq_is_min_then_fifo (st st' : State α) (v : α) (h : SInv st)
    (hstep : step st .deq = (st', .item (some v))) :
    ∃ it : Item α, it.val = v ∧ st.items = it :: st'.items ∧
      (∀ z ∈ st'.items, it.prio < z.prio ∨ (it.prio = z.prio ∧ it.idx < z.idx)) ∧
      (∀ z ∈ st.items, it.prio ≤ z.prio ∧ (z.prio = it.prio → it.idx ≤ z.idx)) := by
  cases hi : st.items with
  | nil => simp [step_deq_nil _ hi] at hstep
  | cons y ys =>
    obtain ⟨rfl, hv⟩ : { st with items := ys } = st' ∧ y.val = v := by
      simpa [step_deq_cons _ _ _ hi] using hstep
    have hs : Sorted (y :: ys) := hi ▸ h.sorted
    have hlt := fun z hz => (less_iff y z).mp ((List.pairwise_cons.mp hs).1 z hz)
    refine ⟨y, hv, rfl, hlt, fun z hz => ?_⟩
    rcases List.mem_cons.mp hz with rfl | hz
    · exact ⟨Int.le_refl _, fun _ => Nat.le_refl _⟩
    · have := hlt z hz; omega

theorem deq_none_iff (st : State α) : (step st .deq).2 = .item none ↔ st.items = [] := by
  cases hi : st.items with
  | nil => simp [step_deq_nil _ hi]
  | cons y ys => simp [step_deq_cons _ _ _ hi]

theorem insert_eq_append (x : Item α) (l : List (Item α)) (h : ∀ y ∈ l, less x y = false) :
    insert x l = l ++ [x] := by
  induction l with
  | nil => rfl
  | cons y ys ih =>
    have hy := h y List.mem_cons_self
    simp only [insert, hy, Bool.false_eq_true, if_false, List.cons_append]
    rw [ih (fun z hz => h z (List.mem_cons_of_mem _ hz))]

theorem run_deqs (st : State α) :
    run st (List.replicate st.items.length Op.deq) =
      ({ st with items := [] }, st.items.map (fun y => Out.item (some y.val))) := by
  obtain ⟨l, c, b⟩ := st
  induction l with
  | nil => rfl
  | cons y ys ih => simp_all [List.replicate_succ, run, step]

/-- On the specification: from an open queue whose pending items have priorities `≤ p`, enqueueing
`xs` with priority `p` and then draining returns first what was pending, then `xs`, in order.
(`n` is a variable only to keep the arithmetic out of the induction.) -/
theorem fifo_behind (p : Int) (xs : List α) (st : State α) (hc : st.closed = false)
    (hp : ∀ y ∈ st.items, y.prio ≤ p ∧ y.idx < st.insertionCount)
    (n : Nat) (hn : n = st.items.length + xs.length) :
    (run st (xs.map (fun x => Op.enq x p) ++ List.replicate n Op.deq)).2 =
      xs.map (fun _ => Out.bool true) ++
        (st.items.map (·.val) ++ xs).map (fun x => Out.item (some x)) := by
  induction xs generalizing st with
  | nil => subst hn; simp [run_deqs]
  | cons x xs ih =>
    have hins : insert ⟨x, p, st.insertionCount⟩ st.items = st.items ++ [⟨x, p, st.insertionCount⟩] :=
      insert_eq_append _ _ fun y hy => by
        have := hp y hy
        rw [← Bool.not_eq_true, less_iff]; simp; omega
    simp only [List.map_cons, List.cons_append, run, step_enq_open _ _ _ hc, hins]
    rw [ih ⟨st.items ++ [(⟨x, p, st.insertionCount⟩ : Item α)], st.insertionCount + 1, st.closed⟩ hc
      (fun y hy => ?_) (by simp only [hn, List.length_append, List.length_cons, List.length_nil]; omega)]
    · simp only [List.map_append, List.map_cons, List.map_nil, List.append_assoc, List.cons_append,
        List.nil_append]
    · rcases List.mem_append.mp hy with hy | hy
      · exact ⟨(hp y hy).1, Nat.lt_succ_of_lt (hp y hy).2⟩
      · cases List.mem_singleton.mp hy; exact ⟨Int.le_refl _, Nat.lt_succ_self _⟩

/-- On the specification: starting from an open, empty queue (any counter value, e.g. after
`Purge`), enqueueing `xs` with one priority `p` and dequeueing `|xs|` times returns `xs` in order. -/
theorem fifo_same_priority (st : State α) (hc : st.closed = false) (he : st.items = [])
    (p : Int) (xs : List α) :
    (run st (xs.map (fun x => Op.enq x p) ++ List.replicate xs.length Op.deq)).2 =
      xs.map (fun _ => Out.bool true) ++ xs.map (fun x => Out.item (some x)) := by
  simpa [he] using fifo_behind p xs st hc (by simp [he]) xs.length (by simp [he])

end SortedQueue
end VarmqVerif
