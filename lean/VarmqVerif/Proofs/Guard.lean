/-
  The protocol machines are written `if guard then .error msg else …`. These two lemmas turn
  `step s e = .ok s'` into the conjunction of the guards that held and the equation for `s'`, so no
  proof has to split the conditionals and discard the error branches by hand. `reach_of_run` is the induction over a
  run, which every machine defines by the same two equations.
-/
namespace VarmqVerif

variable {ε α : Type} {c : Prop} [Decidable c] {m : ε} {x : Except ε α} {a : α}

@[simp] theorem error_else_eq_ok : (if c then .error m else x) = .ok a ↔ ¬ c ∧ x = .ok a := by
  split <;> simp [*]

@[simp] theorem else_error_eq_ok : (if c then x else .error m) = .ok a ↔ c ∧ x = .ok a := by
  split <;> simp [*]

/-- What every accepted step keeps holds at the end of an accepted run. -/
theorem reach_of_run {σ ε : Type} (step : σ → ε → Except String σ) (run : σ → List ε → Except String σ)
    {R : σ → Prop}
    (hnil : ∀ s, run s [] = .ok s)
    (hcons : ∀ s e es, run s (e :: es) = match step s e with | .ok s' => run s' es | .error m => .error m)
    (hstep : ∀ {s s'} e, R s → step s e = .ok s' → R s') {s s' : σ} {es : List ε}
    (hr : R s) (h : run s es = .ok s') : R s' := by
  induction es generalizing s with
  | nil => rw [hnil] at h; cases h; exact hr
  | cons e es ih =>
    rw [hcons] at h
    split at h
    · exact ih (hstep e hr ‹_›) h
    · cases h

end VarmqVerif
