/-
  Theorems about VarmqVerif/Model/Config.lean (Go integer conversions in config.go / worker.go).

  Each function has one exact `toNat` formula (`wsc_toNat`, `clamp_toNat`, `min_idle_toNat`), from which
  the named facts are read off. All three are got the same way: `toNat` goes into the branches
  (`apply_ite`), and the `BitVec` tests become the same tests on `toNat` (`toInt` for the signed one).
-/
import VarmqVerif.Model.Config

namespace VarmqVerif
namespace Config

/-! ## withSafeConcurrency -/

theorem wsc_toNat (cpus : BitVec 32) (c : BitVec 64) :
    (withSafeConcurrency cpus c).toNat =
      if c.toInt < 1 then cpus.toNat else if 2 ^ 32 ≤ c.toInt then 2 ^ 32 - 1 else c.toInt.toNat := by
  simp only [withSafeConcurrency, apply_ite BitVec.toNat, BitVec.slt, decide_eq_true_eq, GT.gt, BitVec.lt_def,
    BitVec.toNat_setWidth]
  show (if c.toInt < 1 then _ else if 4294967295 < c.toNat then 4294967295 else _) = _
  refine ite_congr rfl (fun _ => rfl) fun h => ?_
  -- `uint64(concurrency)` of a positive `int` is its value; the truncation in the last branch is of a value below 2^32
  have : c.toInt = c.toNat := BitVec.toInt_eq_toNat_of_lt (BitVec.toInt_pos_iff.mp (by omega))
  exact ite_congr (propext (by omega)) (fun _ => rfl) fun _ => by omega

/-- With at least one CPU the limit is never 0, for every Go `int` whatsoever. -/
theorem safe_conc_never_zero (cpus : BitVec 32) (c : BitVec 64) (hc : cpus ≠ 0) :
    withSafeConcurrency cpus c ≠ 0 := by
  have hc' : cpus.toNat ≠ 0 := BitVec.toNat_ne.mp hc
  apply BitVec.toNat_ne.mpr
  show _ ≠ 0
  rw [wsc_toNat]
  split
  · exact hc'
  · split <;> omega

/-- `safe_conc_never_zero` under a side condition on the argument that the clamping function does not need -/
theorem safe_conc_pos (cpus : BitVec 32) (c : BitVec 64) (hc : cpus ≠ 0)
    (_h : c.toInt % 2 ^ 32 ≠ 0 ∨ c.toInt < 1) : withSafeConcurrency cpus c ≠ 0 :=
  safe_conc_never_zero cpus c hc

theorem safe_conc_id (cpus : BitVec 32) (c : BitVec 64) (h1 : 1 ≤ c.toInt)
    (h2 : c.toInt < 2 ^ 32) : (withSafeConcurrency cpus c).toNat = c.toInt.toNat := by
  rw [wsc_toNat, if_neg (by omega), if_neg (by omega)]

theorem safe_conc_clamp (cpus : BitVec 32) (c : BitVec 64) (h : 2 ^ 32 ≤ c.toInt) :
    withSafeConcurrency cpus c = 0xFFFFFFFF#32 := by
  apply BitVec.eq_of_toNat_eq
  rw [wsc_toNat, if_neg (by omega), if_pos h]
  rfl

theorem safe_conc_cpus (cpus : BitVec 32) (c : BitVec 64) (h : c.toInt < 1) :
    withSafeConcurrency cpus c = cpus := by
  apply BitVec.eq_of_toNat_eq
  rw [wsc_toNat, if_pos h]

example : (8#32) ≠ 0 := by decide
example : withSafeConcurrency (8#32) (5#64) = 5#32 := by decide
example : withSafeConcurrency (8#32) (0#64) = 8#32 := by decide
example : withSafeConcurrency (8#32) (BitVec.ofInt 64 (-3)) = 8#32 := by decide
example : (BitVec.ofInt 64 (-3)).toInt < 1 := by decide
-- before fix 185c5b0 the Go function ended with a bare `uint32(concurrency)`, which truncates: the positive multiples of
-- 2^32 (2^32, 2^33) gave concurrency 0; now they are clamped
example : (2 : Int) ^ 32 ≤ (8589934592#64).toInt := by decide
example : withSafeConcurrency (8#32) (4294967296#64) = 0xFFFFFFFF#32 := by decide
example : withSafeConcurrency (8#32) (8589934592#64) = 0xFFFFFFFF#32 := by decide
-- just above: 2^32 + 1
example : withSafeConcurrency (8#32) (4294967297#64) = 0xFFFFFFFF#32 := by decide
-- the boundary: 2^32 - 1 is the last value kept as it is; the largest int is clamped
example : withSafeConcurrency (8#32) (4294967295#64) = 4294967295#32 := by decide
example : withSafeConcurrency (8#32) (9223372036854775807#64) = 0xFFFFFFFF#32 := by decide
-- the smallest int (sign bit only: as a uint64 it is 2^63 > MaxUint32, but `concurrency < 1` is tested first)
example : withSafeConcurrency (8#32) (9223372036854775808#64) = 8#32 := by decide
example : 1 ≤ (1000#64).toInt ∧ (1000#64).toInt < 2 ^ 32 := by decide

/-! ## clampPercentage -/

theorem clamp_toNat (p : BitVec 8) :
    (clampPercentage p).toNat =
      if p.toNat = 0 then 1 else if 100 < p.toNat then 100 else p.toNat := by
  simp only [clampPercentage, apply_ite BitVec.toNat, BitVec.toNat_eq, GT.gt, BitVec.lt_def]
  rfl

theorem clamp_range (p : BitVec 8) :
    1 ≤ (clampPercentage p).toNat ∧ (clampPercentage p).toNat ≤ 100 := by
  rw [clamp_toNat]
  split
  · omega
  · split <;> omega

theorem clamp_id (p : BitVec 8) (h1 : 1 ≤ p.toNat) (h2 : p.toNat ≤ 100) :
    clampPercentage p = p := by
  apply BitVec.eq_of_toNat_eq
  rw [clamp_toNat, if_neg (by omega), if_neg (by omega)]

theorem clamp_idem (p : BitVec 8) : clampPercentage (clampPercentage p) = clampPercentage p :=
  clamp_id _ (clamp_range p).1 (clamp_range p).2

example : clampPercentage 0#8 = 1#8 ∧ clampPercentage 200#8 = 100#8 ∧ clampPercentage 50#8 = 50#8 := by
  decide
example : 1 ≤ (50#8).toNat ∧ (50#8).toNat ≤ 100 := by decide

/-! ## numMinIdleWorkers -/

theorem min_idle_toNat (conc : BitVec 32) (pct : BitVec 8) :
    (numMinIdleWorkers conc pct).toNat =
      max ((conc.toNat * pct.toNat % 2 ^ 32) / 100) 1 := by
  -- `uint32(percentage)` and `int(…)` are zero extensions: `toNat` is unchanged
  simp only [numMinIdleWorkers, umax32, apply_ite BitVec.toNat, BitVec.lt_def, BitVec.toNat_udiv, BitVec.toNat_mul,
    BitVec.toNat_setWidth_of_le (show 8 ≤ 32 by omega), BitVec.toNat_setWidth_of_le (show 32 ≤ 64 by omega)]
  show (if _ / 100 < 1 then 1 else _ / 100) = _
  split <;> omega

theorem min_idle_ge_one (conc : BitVec 32) (pct : BitVec 8) :
    1 ≤ (numMinIdleWorkers conc pct).toNat := by
  rw [min_idle_toNat]; omega

theorem min_idle_lt (conc : BitVec 32) (pct : BitVec 8) :
    (numMinIdleWorkers conc pct).toNat < 2 ^ 32 := by
  rw [numMinIdleWorkers, BitVec.toNat_setWidth_of_le (by omega)]
  exact BitVec.isLt _

theorem min_idle_toInt (conc : BitVec 32) (pct : BitVec 8) :
    (numMinIdleWorkers conc pct).toInt = ((numMinIdleWorkers conc pct).toNat : Int) :=
  BitVec.toInt_eq_toNat_of_lt (by have := min_idle_lt conc pct; omega)

theorem min_idle_exact (conc : BitVec 32) (pct : BitVec 8)
    (hno : conc.toNat * pct.toNat < 2 ^ 32) :
    (numMinIdleWorkers conc pct).toNat = max (conc.toNat * pct.toNat / 100) 1 := by
  rw [min_idle_toNat, Nat.mod_eq_of_lt hno]

theorem min_idle_le_conc (conc : BitVec 32) (pct : BitVec 8)
    (hno : conc.toNat * pct.toNat < 2 ^ 32) (hc : 1 ≤ conc.toNat) (hp : pct.toNat ≤ 100) :
    1 ≤ (numMinIdleWorkers conc pct).toNat ∧ (numMinIdleWorkers conc pct).toNat ≤ conc.toNat := by
  refine ⟨min_idle_ge_one conc pct, ?_⟩
  rw [min_idle_exact conc pct hno]
  have h1 : conc.toNat * pct.toNat ≤ conc.toNat * 100 := Nat.mul_le_mul_left _ hp
  have h2 : conc.toNat * pct.toNat / 100 ≤ conc.toNat := by
    apply Nat.div_le_of_le_mul; omega
  omega

/-- `42949672 = ⌊(2^32 - 1) / 100⌋`: the largest concurrency that cannot overflow with a clamped percentage. -/
theorem min_idle_no_overflow (conc : BitVec 32) (pct : BitVec 8)
    (hc : conc.toNat ≤ 42949672) (hp : pct.toNat ≤ 100) : conc.toNat * pct.toNat < 2 ^ 32 := by
  have h1 : conc.toNat * pct.toNat ≤ 42949672 * 100 := Nat.mul_le_mul hc hp
  omega

/-- Curiosity, outside any realistic configuration: for `conc = 2^31`, `pct = 100` the 32-bit
product wraps to 0 and the function returns 1 instead of `2^31`. -/
theorem min_idle_wrap :
    numMinIdleWorkers (2147483648#32) (100#8) = 1#64 ∧
    max ((2147483648#32).toNat * (100#8).toNat / 100) 1 = 2147483648 := by
  decide

/-- The first concurrency at which a wrap happens with `pct = 100`: 42 949 673
(`(42949673 * 100) mod 2^32 = 4`, `4 / 100 = 0`, `max 0 1 = 1`). -/
theorem min_idle_wrap_first :
    numMinIdleWorkers (42949673#32) (100#8) = 1#64 ∧
    numMinIdleWorkers (42949672#32) (100#8) = 42949672#64 := by
  decide

/-! ### the `Nat`/`Int` wrappers agree with the obvious mathematical reading on in-range input -/

theorem withSafeConcurrencyI_eq (cpus : Nat) (c : Int) (hcpus : cpus < 2 ^ 32)
    (h1 : -(2 ^ 63) ≤ c) (h2 : c < 2 ^ 63) :
    withSafeConcurrencyI cpus c =
      if c < 1 then cpus else if c ≥ 2 ^ 32 then 2 ^ 32 - 1 else c.toNat := by
  rw [withSafeConcurrencyI, wsc_toNat, BitVec.toInt_ofInt_eq_self (w := 64) (by decide) h1 h2, BitVec.toNat_ofNat,
    Nat.mod_eq_of_lt hcpus]

theorem clampPercentageI_eq (p : Nat) (hp : p < 256) :
    clampPercentageI p = if p = 0 then 1 else if 100 < p then 100 else p := by
  rw [clampPercentageI, clamp_toNat, BitVec.toNat_ofNat, Nat.mod_eq_of_lt hp]

theorem numMinIdleWorkersI_eq (conc pct : Nat) (hc : conc < 2 ^ 32) (hp : pct < 256) :
    numMinIdleWorkersI conc pct = ((max ((conc * pct % 2 ^ 32) / 100) 1 : Nat) : Int) := by
  rw [numMinIdleWorkersI, min_idle_toInt, min_idle_toNat, BitVec.toNat_ofNat, BitVec.toNat_ofNat,
    Nat.mod_eq_of_lt hc, Nat.mod_eq_of_lt hp]

-- the documented example "WithMinIdleWorkerRatio(20): with concurrency=10, 2 idle workers"
example : numMinIdleWorkers (10#32) (20#8) = 2#64 := by decide
example : (10#32).toNat * (20#8).toNat < 2 ^ 32 ∧ 1 ≤ (10#32).toNat ∧ (20#8).toNat ≤ 100 := by decide
-- rounding down and the floor of 1: 3 workers at 20 % → 0 → 1
example : numMinIdleWorkers (3#32) (20#8) = 1#64 := by decide
-- an unset ratio (0, `WithMinIdleWorkerRatio` never called) gives 1
example : numMinIdleWorkers (1000#32) (0#8) = 1#64 := by decide
example : withSafeConcurrencyI 8 4294967296 = 4294967295 := by decide
example : withSafeConcurrencyI 8 4294967295 = 4294967295 := by decide
example : withSafeConcurrencyI 8 (-1) = 8 := by decide
example : numMinIdleWorkersI 10 50 = 5 := by decide

#print axioms safe_conc_never_zero
#print axioms safe_conc_pos
#print axioms safe_conc_id
#print axioms safe_conc_clamp
#print axioms safe_conc_cpus
#print axioms clamp_range
#print axioms clamp_id
#print axioms min_idle_toNat
#print axioms min_idle_ge_one
#print axioms min_idle_le_conc
#print axioms min_idle_exact
#print axioms min_idle_no_overflow
#print axioms min_idle_wrap
#print axioms withSafeConcurrencyI_eq
#print axioms clampPercentageI_eq
#print axioms numMinIdleWorkersI_eq

end Config
end VarmqVerif
