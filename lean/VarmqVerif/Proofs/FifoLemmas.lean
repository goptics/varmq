/-
  Representation invariant and abstraction function of the segmented FIFO model, and the
  per-method lemmas (`enqueue`, `dequeue`) used by Proofs/Fifo.lean.
-/
import VarmqVerif.Spec.ListQueue

namespace VarmqVerif
namespace Fifo

universe u
variable {α : Type u}

def absChunks (cs : List (Chunk α)) : List α := cs.flatMap Chunk.unread

/-- The abstract queue content: the unread items of all reachable chunks, oldest first. -/
def abs (s : State α) : List α := absChunks s.chunks

/-- Per-chunk well-formedness: `NextReadIndex ≤ NextWriteIndex ≤ Cap()`, `1 ≤ Cap() ≤ M`. -/
structure Chunk.WF (M : Nat) (c : Chunk α) : Prop where
  r_le : c.r ≤ c.data.length
  w_le : c.data.length ≤ c.cap
  cap_pos : 1 ≤ c.cap
  cap_le : c.cap ≤ M

/-- What holds of every chunk behind `readChunk`: nothing read yet, at least one item written. -/
structure Chunk.Tail (c : Chunk α) : Prop where
  r_zero : c.r = 0
  nonempty : 1 ≤ c.data.length

/-- Invariant of the chunk list `c :: rest` (`c` = read chunk, last = write chunk):
    every chunk is well-formed, every chunk except the last is full (`NextWriteIndex = Cap()`),
    every chunk except the first satisfies `Tail`. -/
def ListInv (M : Nat) : Chunk α → List (Chunk α) → Prop
  | c, [] => c.WF M
  | c, d :: ds => c.WF M ∧ c.data.length = c.cap ∧ d.Tail ∧ ListInv M d ds

structure Inv (s : State α) : Prop where
  ic_pos : 1 ≤ s.initCap
  mc_pos : 1 ≤ s.maxCap
  chunks : ListInv (max s.initCap s.maxCap) s.head s.rest
  /-- `readCount ≤ writeCount` and `writeCount - readCount = |abs s|`, in one equation. -/
  count : s.writeCount = s.readCount + (abs s).length

theorem Chunk.push_eq (c : Chunk α) (x : α) :
    c.push x = if c.cap ≤ c.data.length then (c, false)
               else ({ c with data := c.data ++ [x] }, true) := by
  simp [Chunk.push, Chunk.isFull, Chunk.w]

theorem Chunk.pop_eq (c : Chunk α) :
    c.pop = if h : c.r < c.data.length then ({ c with r := c.r + 1 }, some c.data[c.r])
            else (c, none) := by
  unfold Chunk.pop Chunk.w
  split <;> split
  · omega
  · rfl
  · rfl
  · omega

theorem ListInv.replace_head {M : Nat} {c c' : Chunk α} {rest : List (Chunk α)}
    (h : ListInv M c rest) (hd : c'.data = c.data) (hc : c'.cap = c.cap) (hwf : c'.WF M) :
    ListInv M c' rest := by
  cases rest with
  | nil => exact hwf
  | cons d ds => exact ⟨hwf, by rw [hd, hc]; exact h.2.1, h.2.2⟩

theorem listInv_iff {M : Nat} {rest : List (Chunk α)} {c : Chunk α} :
    ListInv M c rest ↔ (∀ c' ∈ c :: rest, c'.WF M) ∧
      (∀ d ∈ (c :: rest).dropLast, d.data.length = d.cap) ∧ ∀ d ∈ rest, d.Tail := by
  induction rest generalizing c with
  | nil => simp [ListInv]
  | cons d ds ih =>
    simp only [ListInv, ih, List.dropLast_cons_cons, List.forall_mem_cons]
    constructor
    · rintro ⟨h1, h2, h3, ⟨h4, h5⟩, h6, h7⟩
      exact ⟨⟨h1, h4, h5⟩, ⟨h2, h6⟩, h3, h7⟩
    · rintro ⟨⟨h1, h4, h5⟩, ⟨h2, h6⟩, h3, h7⟩
      exact ⟨h1, h2, h3, ⟨h4, h5⟩, h6, h7⟩

theorem Inv.readable {s : State α} (h : Inv s) :
    1 ≤ s.initCap ∧ 1 ≤ s.maxCap ∧
    (∀ c ∈ s.chunks, c.r ≤ c.data.length ∧ c.data.length ≤ c.cap ∧ 1 ≤ c.cap ∧
        c.cap ≤ max s.initCap s.maxCap) ∧
    (∀ c ∈ s.chunks.dropLast, c.data.length = c.cap) ∧
    (∀ c ∈ s.rest, c.r = 0 ∧ 1 ≤ c.data.length) ∧
    s.readCount ≤ s.writeCount ∧ s.writeCount - s.readCount = (abs s).length := by
  obtain ⟨h1, h2, h3⟩ := listInv_iff.mp h.chunks
  have := h.count
  exact ⟨h.ic_pos, h.mc_pos, fun c hc => ⟨(h1 c hc).1, (h1 c hc).2, (h1 c hc).3, (h1 c hc).4⟩, h2,
    fun c hc => ⟨(h3 c hc).1, (h3 c hc).2⟩, by omega, by omega⟩

theorem absChunks_cons (c : Chunk α) (cs : List (Chunk α)) :
    absChunks (c :: cs) = c.unread ++ absChunks cs := by
  simp [absChunks]

@[simp] theorem absChunks_nil : absChunks ([] : List (Chunk α)) = [] := rfl

/-- The last conjunct is only there for the induction: in the `cons` case the chunk behind `c` has to
    stay a `Tail` chunk. -/
theorem enqChunks_spec {M mc : Nat} (x : α) (h1 : 1 ≤ mc) (hM : mc ≤ M) :
    ∀ (rest : List (Chunk α)) (c : Chunk α), ListInv M c rest →
      (enqChunks mc x c rest).2 = true ∧
      ListInv M (enqChunks mc x c rest).1.1 (enqChunks mc x c rest).1.2 ∧
      absChunks ((enqChunks mc x c rest).1.1 :: (enqChunks mc x c rest).1.2)
        = absChunks (c :: rest) ++ [x] ∧
      (c.Tail → (enqChunks mc x c rest).1.1.Tail) := by
  intro rest
  induction rest with
  | nil =>
    intro c h
    have hwf : c.WF M := h
    have := hwf.cap_pos
    by_cases hf : c.cap ≤ c.data.length
    · -- write chunk full: link a new chunk
      have hn : ¬ (min (c.cap + c.cap / 2) mc ≤ 0) := by omega
      have hn1 : 1 ≤ min (c.cap + c.cap / 2) mc := by omega
      simp only [enqChunks, Chunk.push_eq, hf, if_true, Chunk.new, List.length_nil, hn, if_false,
        List.nil_append]
      -- `c` stays and is full; the new chunk holds `x` alone, unread
      refine ⟨trivial, ⟨hwf, ?_, ⟨rfl, Nat.le_refl 1⟩,
        ⟨Nat.zero_le _, hn1, hn1, Nat.le_trans (Nat.min_le_right _ _) hM⟩⟩, ?_, id⟩
      · have := hwf.w_le; omega
      · simp [absChunks, Chunk.unread]
    · simp only [enqChunks, Chunk.push_eq, hf, if_false]
      refine ⟨trivial, ⟨?_, ?_, hwf.cap_pos, hwf.cap_le⟩, ?_, fun t => ⟨t.r_zero, by simp⟩⟩
      · have := hwf.r_le; simp; omega
      · simp; omega
      · simp [absChunks, Chunk.unread, List.drop_append_of_le_length hwf.r_le]
  | cons d ds ih =>
    intro c h
    obtain ⟨hwf, hfull, htail, hrest⟩ := h
    obtain ⟨ih1, ih2, ih3, ih4⟩ := ih d hrest
    simp only [enqChunks]
    refine ⟨ih1, ⟨hwf, hfull, ih4 htail, ih2⟩, ?_, id⟩
    rw [absChunks_cons, ih3, absChunks_cons c, List.append_assoc]

theorem enqueue_spec {s : State α} (h : Inv s) (x : α) :
    (enqueue s x).2 = !s.closed ∧ abs (enqueue s x).1 = (if s.closed then abs s else abs s ++ [x]) ∧
    Inv (enqueue s x).1 ∧ (enqueue s x).1.closed = s.closed := by
  cases hc : s.closed with
  | true => simp [enqueue, hc, h]
  | false =>
    have hs := enqChunks_spec x h.mc_pos (Nat.le_max_right s.initCap _) s.rest s.head h.chunks
    simp only [enqueue, hc, Bool.false_eq_true, if_false]
    generalize enqChunks s.maxCap x s.head s.rest = r at hs ⊢
    obtain ⟨e1, e2, e3, _⟩ := hs
    refine ⟨e1, e3, ⟨h.ic_pos, h.mc_pos, e2, ?_⟩, trivial⟩
    have := h.count
    simp only [e1, if_true, abs, State.chunks, e3, List.length_append, List.length_singleton] at this ⊢
    omega

theorem dequeue_head {s : State α} (h : Inv s) (hr : s.head.r < s.head.data.length) :
    (dequeue s).2 = (abs s).head? ∧ abs (dequeue s).1 = (abs s).tail ∧ Inv (dequeue s).1 ∧
    (dequeue s).1.closed = s.closed := by
  have hwf := (listInv_iff.mp h.chunks).1 s.head List.mem_cons_self
  have habs : abs s =
      s.head.data[s.head.r] :: absChunks ({ s.head with r := s.head.r + 1 } :: s.rest) := by
    simp only [abs, State.chunks, absChunks_cons, Chunk.unread, List.drop_eq_getElem_cons hr]
    rfl
  have := h.count
  simp only [dequeue, Chunk.pop_eq, hr, dite_true, habs, List.length_cons] at this ⊢
  exact ⟨rfl, rfl, ⟨h.ic_pos, h.mc_pos,
    h.chunks.replace_head rfl rfl ⟨hr, hwf.w_le, hwf.cap_pos, hwf.cap_le⟩, by
      simp only [abs, State.chunks]; omega⟩, trivial⟩

theorem dequeue_spec {s : State α} (h : Inv s) :
    (dequeue s).2 = (abs s).head? ∧ abs (dequeue s).1 = (abs s).tail ∧ Inv (dequeue s).1 ∧
    (dequeue s).1.closed = s.closed := by
  by_cases hr : s.head.r < s.head.data.length
  · exact dequeue_head h hr
  · have hdrop : s.head.unread = [] := List.drop_eq_nil_of_le (by omega)
    cases hrest : s.rest with
    | nil =>
      have hres : dequeue s = (s, none) := by
        simp only [dequeue, Chunk.pop_eq, hr, dite_false, hrest]
      have habs : abs s = [] := by simp [abs, State.chunks, absChunks_cons, hdrop, hrest]
      rw [hres, habs]
      exact ⟨rfl, rfl, h, rfl⟩
    | cons d ds =>
      -- the read pointer moves on to the next chunk (unread and non-empty by `Tail`); from there
      -- the call is a `Dequeue` on the queue that starts at that chunk
      have hch := h.chunks
      rw [hrest] at hch
      obtain ⟨_, _, htail, hds⟩ := hch
      have hd : d.r < d.data.length := by have := htail.r_zero; have := htail.nonempty; omega
      have hadv : dequeue s = dequeue { s with head := d, rest := ds } := by
        simp only [dequeue, Chunk.pop_eq, hr, dite_false, hrest, hd, dite_true]
      have habs : abs s = abs { s with head := d, rest := ds } := by
        simp [abs, State.chunks, absChunks_cons, hdrop, hrest]
      rw [hadv, habs]
      exact dequeue_head ⟨h.ic_pos, h.mc_pos, hds, habs ▸ h.count⟩ hd

end Fifo
end VarmqVerif
