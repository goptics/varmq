/-
  Theorems about the model `FifoDisp` (Model/FifoDisp.lean): Disp composed with the FIFO specification.
  They are read off one invariant about the line `deqd ++ pending` (what the dispatcher took, then what still
  waits): it is a subsequence of the acceptance order, and whatever was accepted and is not in it was dropped.
-/
import VarmqVerif.Model.FifoDisp
import VarmqVerif.Proofs.Disp
import VarmqVerif.Proofs.Guard

namespace VarmqVerif
namespace FifoDisp

structure J (s : State) : Prop where
  disp : Disp.Reach s.d
  sub : (s.d.deqd ++ s.pending).Sublist s.accepted
  kept : ∀ j ∈ s.accepted, j ∈ s.d.deqd ++ s.pending ∨ j ∈ s.dropped

theorem J_init : J init := ⟨Disp.Reach.init, by simp [init], by simp [init]⟩

theorem J_step {s s' : State} (e : Ev) (hJ : J s) (h : step s e = .ok s') : J s' := by
  obtain ⟨hd, hs, hk⟩ := hJ
  revert h; fun_cases step s e <;> rintro ⟨⟩
  case case2 j _ => -- enq: appended to both the line and the acceptance order
    refine ⟨hd, ?_, fun x hx => ?_⟩
    · show (s.d.deqd ++ (s.pending ++ [j])).Sublist (s.accepted ++ [j])
      rw [← List.append_assoc]
      exact hs.append (.refl _)
    · show x ∈ s.d.deqd ++ (s.pending ++ [j]) ∨ x ∈ s.dropped
      rw [← List.append_assoc]
      rcases List.mem_append.mp hx with hx | hx
      · exact (hk x hx).imp_left (List.mem_append_left _)
      · exact .inl (List.mem_append_right _ hx)
  case case5 j hd' rest hp hne => -- drop: the head of `pending` leaves the line
    obtain rfl : hd' = j := by simpa using hne
    rw [hp] at hs hk
    refine ⟨hd, .trans (.append (.refl _) (List.sublist_cons_self ..)) hs, fun x hx => ?_⟩
    show x ∈ s.d.deqd ++ rest ∨ x ∈ s.dropped ++ [hd']
    have := hk x hx
    simp only [List.mem_append, List.mem_cons] at this ⊢
    rcases this with (h | h | h) | h <;> simp [h]
  case case8 j hd' rest hp hne d' hd2 => -- d (deq j): the head of `pending` crosses the boundary, the line stays
    obtain rfl : hd' = j := by simpa using hne
    have hl : d'.deqd ++ rest = s.d.deqd ++ s.pending := by simp [Disp.deqd_ok hd2, hp]
    exact ⟨.step _ hd hd2, hl ▸ hs, fun x hx => hl ▸ hk x hx⟩
  case case10 e hne d' hd2 => -- any other Disp event leaves `deqd` alone
    have hl : d'.deqd = s.d.deqd := by
      rw [Disp.deqd_ok hd2]; cases e <;> first | exact absurd rfl (hne _) | simp
    exact ⟨.step _ hd hd2, hl ▸ hs, fun x hx => hl ▸ hk x hx⟩

theorem inv_reach {s : State} (h : Reach s) : J s := by
  induction h with
  | init => exact J_init
  | step e _ hs ih => exact J_step e ih hs

/-- so every theorem of Proofs/Disp.lean applies to `s.d` -/
theorem disp_reach {s : State} (h : Reach s) : Disp.Reach s.d := (inv_reach h).disp

/-- a standard queue hands out jobs in the order their submissions were accepted (what is missing was purged) -/
theorem handout_is_acceptance_order {s : State} (h : Reach s) : s.d.deqd.Sublist s.accepted :=
  List.Sublist.trans (List.sublist_append_left _ _) (inv_reach h).sub

/-- … and what is still pending comes after everything handed out, in acceptance order -/
theorem handout_then_pending {s : State} (h : Reach s) : (s.d.deqd ++ s.pending).Sublist s.accepted :=
  (inv_reach h).sub

/-- nothing accepted disappears inside the queue: every accepted job has been handed to the dispatcher, is still pending, or
    was removed by a Purge (which closes what it removes) -/
theorem accepted_is_somewhere {s : State} (h : Reach s) : ∀ j ∈ s.accepted, j ∈ s.d.deqd ∨ j ∈ s.pending ∨ j ∈ s.dropped :=
  fun j hj => by simpa [or_assoc] using (inv_reach h).kept j hj

/-- "with concurrency 1 this is exactly the execution order": as long as the limit never exceeded 1, worker functions
    start in acceptance order (the jobs missing from the sequence were purged, cancelled or skipped) -/
theorem serial_is_acceptance_order {s : State} (h : Reach s) (hl : s.d.maxLim ≤ 1) : s.d.entered.Sublist s.accepted :=
  List.Sublist.trans (Disp.serial_is_handout_order (disp_reach h) hl) (handout_is_acceptance_order h)

theorem started_were_accepted {s : State} (h : Reach s) : ∀ j ∈ s.d.entered, j ∈ s.accepted := by
  intro j hj
  exact (handout_is_acceptance_order h).subset (Disp.entered_subset_deqd (disp_reach h) j hj)

/-- with limit n: once job j has started, at most n − 1 of the jobs handed out before it are still waiting to start -/
theorem ahead_slack {s : State} (h : Reach s) {j : Nat} (hj : j ∈ s.d.entered) :
    (Disp.waitingAhead s.d j).length + 1 ≤ s.d.maxLim :=
  Disp.ahead_slack_stable (disp_reach h) hj

theorem reach_run {s s' : State} {es : List Ev} (h : Reach s) (hrun : run s es = .ok s') : Reach s' :=
  reach_of_run step run (fun _ => rfl) (fun s e _ => by cases h : step s e <;> simp only [run, h]) Reach.step h hrun

def okState : Except String State → Option State
  | .ok s => some s
  | .error _ => none

/-- three submissions, limit 1: they run in acceptance order -/
example : (okState (run init [.d (.lim 1), .enq 1, .enq 2, .enq 3, .d (.deq 1), .d (.enter 1), .d (.done 1),
    .d (.deq 2), .d (.enter 2), .d (.done 2), .d (.deq 3), .d (.enter 3)])).map (fun s => (s.d.entered, s.accepted)) =
    some ([1, 2, 3], [1, 2, 3]) := by decide

/-- the dispatcher cannot take the second job first -/
example : (okState (run init [.d (.lim 1), .enq 1, .enq 2, .d (.deq 2)])).isNone = true := by decide

/-- a purged job is missing from the execution order, the rest keeps its order -/
example : (okState (run init [.d (.lim 1), .enq 1, .enq 2, .enq 3, .d (.deq 1), .drop 2, .d (.enter 1), .d (.done 1),
    .d (.deq 3), .d (.enter 3)])).map (fun s => (s.d.entered, s.accepted)) = some ([1, 3], [1, 2, 3]) := by decide

/-- with limit 2 the second job may start before the first -/
example : (okState (run init [.d (.lim 2), .enq 1, .enq 2, .d (.deq 1), .d (.deq 2), .d (.enter 2), .d (.enter 1)])).map
    (fun s => s.d.entered) = some [2, 1] := by decide

example : ∃ s, Reach s ∧ s.d.maxLim ≤ 1 ∧ s.d.entered = [1, 2] ∧ s.accepted = [1, 2] := by
  refine ⟨_, reach_run Reach.init (es := [.d (.lim 1), .enq 1, .enq 2, .d (.deq 1), .d (.enter 1), .d (.done 1), .d (.deq 2), .d (.enter 2)]) rfl, ?_, rfl, rfl⟩
  decide

#print axioms accepted_is_somewhere
#print axioms handout_is_acceptance_order
#print axioms serial_is_acceptance_order
#print axioms started_were_accepted
#print axioms ahead_slack

end FifoDisp
end VarmqVerif
