import VarmqVerif.Model.Heap

/-!
# Proofs about the binary heap (`Model/Heap.lean`)

`up` / `down` restore the heap order from the respective "almost heap" preconditions (`UpInv`, `DownInv`);
every iteration of either swaps a node with its parent, and `swap_edge` says what that does to each edge.
Everything is for arbitrary `α`, arbitrary `Int` priorities, arrays of any size.
-/

namespace VarmqVerif
namespace Heap
variable {α : Type}

theorem less_iff (a b : Item α) :
    less a b = true ↔ a.prio < b.prio ∨ (a.prio = b.prio ∧ a.idx < b.idx) := by
  unfold less; split <;> simp <;> omega

def le (a b : Item α) : Prop := less b a = false

theorem le_iff (a b : Item α) :
    le a b ↔ a.prio < b.prio ∨ (a.prio = b.prio ∧ a.idx ≤ b.idx) := by
  unfold le
  rw [← Bool.not_eq_true, less_iff]; omega

theorem less_irrefl (a : Item α) : less a a = false := by
  rw [← Bool.not_eq_true, less_iff]; omega

theorem less_trans {a b c : Item α} (h1 : less a b = true) (h2 : less b c = true) :
    less a c = true := by
  rw [less_iff] at *; omega

theorem less_asymm {a b : Item α} (h : less a b = true) : less b a = false := by
  rw [← Bool.not_eq_true]; rw [less_iff] at *; omega

theorem less_total {a b : Item α} (h : a.idx ≠ b.idx) : less a b = true ∨ less b a = true := by
  rw [less_iff, less_iff]; omega

theorem eq_of_not_less {a b : Item α} (h1 : less a b = false) (h2 : less b a = false) :
    a.prio = b.prio ∧ a.idx = b.idx := by
  rw [← Bool.not_eq_true, less_iff] at h1 h2; omega

theorem le_refl (a : Item α) : le a a := less_irrefl a
theorem le_trans {a b c : Item α} : le a b → le b c → le a c := by
  simp only [le_iff]; omega
theorem le_total (a b : Item α) : le a b ∨ le b a := by
  simp only [le_iff]; omega
theorem le_of_less {a b : Item α} (h : less a b = true) : le a b := less_asymm h
theorem le_of_not_le {a b : Item α} (h : ¬ le a b) : le b a := by
  simp only [le_iff] at *; omega

theorem parent_lt {i : Nat} (h : 0 < i) : parent i < i := by unfold parent; omega
theorem parent_lt_of_lt {i n : Nat} (h : i < n) : parent i < n := by unfold parent; omega

def IsHeap (a : Array (Item α)) : Prop :=
  ∀ i (hi : i < a.size), 0 < i → less a[i] (a[parent i]'(by unfold parent; omega)) = false

/-- Heap order on the index range `[lo, n)`: every `k < n` whose parent is `≥ lo` respects it. -/
def HeapOn (a : Array (Item α)) (lo n : Nat) : Prop :=
  ∀ k (hk : k < a.size), 0 < k → k < n → lo ≤ parent k →
    le (a[parent k]'(parent_lt_of_lt hk)) a[k]

theorem isHeap_iff_heapOn (a : Array (Item α)) : IsHeap a ↔ HeapOn a 0 a.size :=
  ⟨fun h k hk k0 _ _ => h k hk k0, fun h k hk k0 => h k hk k0 hk (Nat.zero_le _)⟩

theorem isHeap_empty : IsHeap (#[] : Array (Item α)) := by
  intro i hi; simp at hi

theorem root_le (a : Array (Item α)) (H : IsHeap a) (k : Nat) (hk : k < a.size) :
    le (a[0]'(by omega)) a[k] := by
  induction k using Nat.strongRecOn with
  | _ k ih =>
    by_cases h0 : k = 0
    · subst h0; exact le_refl _
    · have k0 := Nat.pos_of_ne_zero h0
      exact le_trans (ih _ (parent_lt k0) (parent_lt_of_lt hk)) (H k hk k0)

/-- Swapping `c` with its parent `p` changes which two values of `a` the edge into `k` joins: the
swapped pair itself (`k = c`), `p`'s parent and `c` (`k = p`), `c` and a sibling of `c`, `p` and a
child of `c`; every other edge joins what it joined before.  Both sift loops move their hole by
such a swap. -/
theorem swap_edge {a : Array (Item α)} {p c k : Nat} (hp : p < a.size) (hc : c < a.size)
    (hk : k < a.size) (e : parent c = p) (c0 : 0 < c) (k0 : 0 < k)
    (self  : k = c → le a[c] a[p])
    (par   : k = p → le (a[parent p]'(parent_lt_of_lt hp)) a[c])
    (sib   : k ≠ c → parent k = p → le a[c] a[k])
    (child : parent k = c → le a[p] a[k])
    (other : k ≠ c → k ≠ p → parent k ≠ p → parent k ≠ c →
      le (a[parent k]'(parent_lt_of_lt hk)) a[k]) :
    le ((a.swap p c hp hc)[parent k]'(by simpa using parent_lt_of_lt hk))
      ((a.swap p c hp hc)[k]'(by simpa)) := by
  grind

/-- Heap order everywhere except between `j` and its parent; the children of `j` already dominate
`j`'s parent. -/
structure UpInv (a : Array (Item α)) (j : Nat) : Prop where
  others : ∀ i (hi : i < a.size), 0 < i → i ≠ j →
    le (a[parent i]'(by unfold parent; omega)) a[i]
  grand  : ∀ c (hc : c < a.size), 0 < c → (hpc : parent c = j) → 0 < j →
    le (a[parent j]'(by unfold parent at *; omega)) a[c]

theorem up_heap (a : Array (Item α)) (j : Nat) (H : UpInv a j) : IsHeap (up a j) := by
  fun_induction up a j with
  | case1 a j hj hi h =>
      -- break: `i == j || !less(j, i)`
      intro i hi' hpos
      by_cases hij : i = j
      · subst hij; exact h.resolve_left (Nat.ne_of_lt (parent_lt hpos))
      · exact H.others i hi' hpos hij
  | case2 a j hj hi h ih =>
      have hlt : le a[j] a[parent j] := le_of_less (by simpa using fun e => h (.inr e))
      have j0 : 0 < j := Nat.pos_of_ne_zero fun e => h (.inl (by rw [e]))
      have hpj := parent_lt j0
      have sib : ∀ k (hk : k < a.size), 0 < k → k ≠ j → parent k = parent j → le a[parent j] a[k] :=
        fun k hk k0 hkj e => by simpa only [e] using H.others k hk k0 hkj
      refine ih ⟨fun k hk k0 hkp => ?_, fun c hc c0 hpc p0 => ?_⟩
      · have hk : k < a.size := by simpa using hk
        exact swap_edge hi hj hk rfl j0 k0 (self := fun _ => hlt) (par := (absurd · hkp))
          (sib := fun hkj e => le_trans hlt (sib k hk k0 hkj e))
          (child := fun e => H.grand k hk k0 e j0) (other := fun hkj _ _ _ => H.others k hk k0 hkj)
      · -- the swap leaves `parent (parent j)` alone, and `a[parent j]` is below it
        have hc : c < a.size := by simpa using hc
        have hpp := H.others (parent j) hi p0 (by omega)
        have := parent_lt p0
        rw [Array.getElem_swap_of_ne (by omega) (by omega)]
        by_cases hcj : c = j
        · subst hcj; simpa using hpp
        · rw [Array.getElem_swap_of_ne (by have := parent_lt c0; omega) hcj]
          exact le_trans hpp (sib c hc c0 hcj hpc)
  | case3 a j hj =>
      -- `j ≥ a.size` (the totalisation branch): no index is `j`
      intro i hi' hpos; exact H.others i hi' hpos (by omega)

theorem up_perm (a : Array (Item α)) (j : Nat) : (up a j).toList.Perm a.toList := by
  fun_induction up a j with
  | case1 => exact .refl _
  | case2 a j hj hi h ih => exact ih.trans (Array.swap_perm hi hj).toList
  | case3 => exact .refl _

theorem minChild_spec (a : Array (Item α)) (i n : Nat) (h1 : 2 * i + 1 < n) (hn : n ≤ a.size) :
    parent (minChild a (2 * i + 1) n h1 hn) = i ∧
    ∀ c (hc : c < n), 0 < c → parent c = i →
      le (a[minChild a (2 * i + 1) n h1 hn]'(by have := minChild_lt a _ n h1 hn; omega))
        (a[c]'(by omega)) := by
  grind [minChild, le, less_asymm, less_irrefl]

/-- Heap order on `[lo, n)` everywhere except between `i` and its children; the children of `i`
already dominate `i`'s parent (when that parent is in range). -/
structure DownInv (a : Array (Item α)) (i n lo : Nat) : Prop where
  others : ∀ k (hk : k < a.size), 0 < k → k < n → lo ≤ parent k → parent k ≠ i →
    le (a[parent k]'(by unfold parent; omega)) a[k]
  grand  : ∀ c (hc : c < a.size), 0 < c → c < n → (hpc : parent c = i) → 0 < i → lo ≤ parent i →
    le (a[parent i]'(by unfold parent at *; omega)) a[c]

theorem down_heap (a : Array (Item α)) (i n lo : Nat) (hn : n ≤ a.size) (H : DownInv a i n lo) :
    HeapOn (down a i n) lo n := by
  fun_induction down a i n with
  | case1 a i h j hjn hij hl =>
      -- break: `!h.Less(j, i)`
      intro k hk k0 hkn hlo
      by_cases hp : parent k = i
      · subst hp
        exact le_trans hl ((minChild_spec a _ n h.1 h.2).2 k hkn k0 rfl)
      · exact H.others k hk k0 hkn hlo hp
  | case2 a i h j hjn hij hl ih =>
      obtain ⟨hpj, hs⟩ : parent j = i ∧ _ := minChild_spec a i n h.1 h.2
      have hi : i < a.size := by omega
      have hj : j < a.size := by omega
      have j0 : 0 < j := by omega
      have hlt : le a[j] a[i] := le_of_less (by simpa using hl)
      refine ih (by simpa using hn) ⟨fun k hk k0 hkn hlo hne => ?_, fun c hc c0 hcn hpc _ hlo => ?_⟩
      · have hk : k < a.size := by simpa using hk
        exact swap_edge hi hj hk hpj j0 k0 (self := fun _ => hlt)
          (par := fun e => by subst e; exact H.grand j hj j0 hjn hpj k0 hlo)
          (sib := fun _ => hs k hkn k0) (child := (absurd · hne))
          (other := fun _ _ e _ => H.others k hk k0 hkn hlo e)
      · -- `c` is a child of `j`: untouched by the swap, and its parent now holds `a[j]`
        have hc : c < a.size := by simpa using hc
        have := parent_lt c0
        have hci : c ≠ i := by omega
        have hcj : c ≠ j := by omega
        simpa only [Array.getElem_swap, hpj, if_true, hci, hcj, if_false, hpc] using
          H.others c hc c0 hcn (by omega) (by omega)
  | case3 a i h =>
      -- break: `j1 >= n`
      intro k hk k0 hkn hlo
      exact H.others k hk k0 hkn hlo (by unfold parent; omega)

theorem down_perm (a : Array (Item α)) (i n : Nat) : (down a i n).toList.Perm a.toList := by
  fun_induction down a i n with
  | case1 => exact .refl _
  | case2 a i h j hjn hij hl ih => exact ih.trans (Array.swap_perm _ _).toList
  | case3 => exact .refl _

theorem down_getElem?_ge (a : Array (Item α)) (i n k : Nat) (hnk : n ≤ k) :
    (down a i n)[k]? = a[k]? := by
  fun_induction down a i n with
  | case1 => rfl
  | case2 a i h j hjn hij hl ih =>
      rw [ih, Array.getElem?_swap, if_neg (by omega), if_neg (by omega)]
  | case3 => rfl

/-! ## `heap.Push` -/

theorem upInv_push (a : Array (Item α)) (x : Item α) (H : IsHeap a) : UpInv (a.push x) a.size := by
  constructor
  · intro i hi hpos hne
    have hi' : i < a.size := by simp at hi; omega
    rw [Array.getElem_push_lt hi', Array.getElem_push_lt (parent_lt_of_lt hi')]
    exact H i hi' hpos
  · intro c hc _ hpc _
    simp at hc
    unfold parent at hpc; omega

theorem heapPush_isHeap (a : Array (Item α)) (x : Item α) (H : IsHeap a) :
    IsHeap (heapPush a x) :=
  up_heap _ _ (upInv_push a x H)

theorem heapPush_perm (a : Array (Item α)) (x : Item α) :
    (heapPush a x).toList.Perm (x :: a.toList) := by
  unfold heapPush
  refine (up_perm _ _).trans ?_
  simp

theorem size_heapPush (a : Array (Item α)) (x : Item α) : (heapPush a x).size = a.size + 1 := by
  simp [heapPush, size_up]

/-! ## `heap.Pop` -/

theorem size_heapPop (a : Array (Item α)) (h : 0 < a.size) :
    (heapPop a h).2.size = a.size - 1 := by
  simp [heapPop, size_down]

theorem heapPop_fst (a : Array (Item α)) (h : 0 < a.size) : (heapPop a h).1 = a[0] := by
  apply Option.some.inj
  simp only [heapPop]
  rw [← Array.getElem?_eq_getElem, down_getElem?_ge _ _ _ _ (Nat.le_refl _)]
  simp [Array.getElem?_swap]

theorem toList_eq_pop_append {β : Type} (xs : Array β) (h : 0 < xs.size) :
    xs.toList = xs.pop.toList ++ [xs[xs.size - 1]] := by
  obtain ⟨bs, c, rfl⟩ := Array.eq_push_of_size_ne_zero (Nat.ne_of_gt h)
  simp

theorem heapPop_perm (a : Array (Item α)) (h : 0 < a.size) :
    a.toList.Perm ((heapPop a h).1 :: (heapPop a h).2.toList) := by
  have hp := (down_perm (a.swap 0 (a.size - 1) h (by omega)) 0 (a.size - 1)).trans
    (Array.swap_perm _ _).toList
  rw [toList_eq_pop_append _ (by simpa [size_down] using h)] at hp
  simpa [heapPop, size_down] using hp.symm.trans (List.perm_append_singleton _ _)

theorem heapPop_min (a : Array (Item α)) (H : IsHeap a) (h : 0 < a.size) :
    ∀ x ∈ a, less x (heapPop a h).1 = false := by
  intro x hx
  rw [heapPop_fst]
  obtain ⟨k, hk, rfl⟩ := Array.mem_iff_getElem.mp hx
  exact root_le a H k hk

theorem downInv_pop (a : Array (Item α)) (H : IsHeap a) (h : 0 < a.size) :
    DownInv (a.swap 0 (a.size - 1) h (by omega)) 0 (a.size - 1) 0 := by
  constructor
  · intro k hk hkpos hkn _ hpk
    have := parent_lt hkpos
    rw [Array.getElem_swap_of_ne hpk (by omega), Array.getElem_swap_of_ne (by omega) (by omega)]
    exact H k (by simpa using hk) hkpos
  · intro c _ _ _ _ h0; omega

theorem heapPop_isHeap (a : Array (Item α)) (H : IsHeap a) (h : 0 < a.size) :
    IsHeap (heapPop a h).2 := by
  have hH := down_heap _ 0 (a.size - 1) 0 (by simp) (downInv_pop a H h)
  intro k hk k0
  have hk : k < a.size - 1 := by simpa [heapPop, size_down] using hk
  simpa [heapPop, le] using hH k (by simp [size_down]; omega) k0 hk (Nat.zero_le _)

/-! ## `heap.Init` -/

theorem initLoop_perm (n k : Nat) (a : Array (Item α)) : (initLoop n k a).toList.Perm a.toList := by
  induction k generalizing a with
  | zero => exact .refl _
  | succ k ih => exact (ih _).trans (down_perm _ _ _)

theorem size_initLoop (n k : Nat) (a : Array (Item α)) : (initLoop n k a).size = a.size := by
  simpa using (initLoop_perm n k a).length_eq

theorem initLoop_heapOn (n k : Nat) (a : Array (Item α)) (hn : n ≤ a.size) (H : HeapOn a k n) :
    HeapOn (initLoop n k a) 0 n := by
  induction k generalizing a with
  | zero => exact H
  | succ k ih =>
    apply ih _ (by simpa [size_down] using hn)
    apply down_heap _ _ _ _ hn
    constructor
    · intro x hx hxpos hxn hlo hne
      exact H x hx hxpos hxn (by omega)
    · intro c _ _ _ _ hkpos hlo
      have := parent_lt hkpos; omega

/-- `heap.Init` establishes the heap order on an arbitrary slice (priority.go only ever calls it on an
empty one, see `heapInit_empty`). -/
theorem heapInit_isHeap (a : Array (Item α)) : IsHeap (heapInit a) := by
  rw [isHeap_iff_heapOn]
  unfold heapInit
  rw [size_initLoop]
  apply initLoop_heapOn _ _ _ (Nat.le_refl _)
  intro k hk hkpos _ hlo
  unfold parent at hlo; omega

theorem heapInit_perm (a : Array (Item α)) : (heapInit a).toList.Perm a.toList :=
  initLoop_perm _ _ _

/-- What priority.go uses. -/
theorem heapInit_empty : heapInit (#[] : Array (Item α)) = #[] := by
  simp [heapInit, initLoop]

instance (a : Array (Item α)) : Decidable (IsHeap a) := by
  unfold IsHeap; exact inferInstance

section Examples

-- Concrete runs of the (well-founded) `up` / `down` loops are evaluated in the kernel (`decide +kernel`: no
-- `native_decide`, no extra axiom).

/-- A six-element heap with extreme (`minInt64` / `maxInt64`), negative and equal priorities. -/
def exHeap : Array (Item String) :=
  #[⟨"e", -9223372036854775808, 4⟩, ⟨"b", -3, 1⟩, ⟨"f", -3, 5⟩,
    ⟨"d", 9223372036854775807, 3⟩, ⟨"a", 5, 0⟩, ⟨"c", 5, 2⟩]

example : IsHeap exHeap := by decide
/-- heap order is not sortedness: `exHeap` is a heap although ("d", maxInt64) precedes ("a", 5). -/
example : less exHeap[4] exHeap[3] = true := by decide
example : ¬ IsHeap (#[⟨(), 1, 0⟩, ⟨(), 0, 1⟩] : Array (Item Unit)) := by decide
/-- equal priorities: the earlier insertion index must be the parent. -/
example : ¬ IsHeap (#[⟨(), 7, 1⟩, ⟨(), 7, 0⟩] : Array (Item Unit)) := by decide

/-- `heap.Push` of an item that has to travel from the last leaf to the root (two swaps). -/
example : heapPush exHeap ⟨"z", -9223372036854775808, 3⟩ =
    #[⟨"z", -9223372036854775808, 3⟩, ⟨"b", -3, 1⟩, ⟨"e", -9223372036854775808, 4⟩,
      ⟨"d", 9223372036854775807, 3⟩, ⟨"a", 5, 0⟩, ⟨"c", 5, 2⟩, ⟨"f", -3, 5⟩] := by decide +kernel
example : IsHeap (heapPush exHeap ⟨"z", -9223372036854775808, 3⟩) :=
  heapPush_isHeap _ _ (by decide)

/-- `heap.Pop`: returns the root; the last leaf `c` sifts down two levels: the tie `(-3,1)` / `(-3,5)`
picks the left child, then `(5,0)` beats `maxInt64` and is `less` than `c = (5,2)`. -/
example : heapPop exHeap (by decide) =
    (⟨"e", -9223372036854775808, 4⟩,
     #[⟨"b", -3, 1⟩, ⟨"a", 5, 0⟩, ⟨"f", -3, 5⟩, ⟨"d", 9223372036854775807, 3⟩, ⟨"c", 5, 2⟩]) := by
  decide +kernel
example : IsHeap (heapPop exHeap (by decide)).2 := heapPop_isHeap _ (by decide) _
example : ∀ x ∈ exHeap, less x (heapPop exHeap (by decide)).1 = false :=
  heapPop_min _ (by decide) _

/-- `heap.Init` on an unordered slice (not reachable from priority.go, which only heapifies `[]`). -/
example : heapInit (#[⟨"a", 5, 0⟩, ⟨"b", -3, 1⟩, ⟨"c", 5, 2⟩, ⟨"d", 0, 3⟩, ⟨"e", -7, 4⟩] : Array (Item String)) =
    #[⟨"e", -7, 4⟩, ⟨"b", -3, 1⟩, ⟨"c", 5, 2⟩, ⟨"d", 0, 3⟩, ⟨"a", 5, 0⟩] := by decide +kernel

/-- `UpInv` / `DownInv` (hypotheses of `up_heap` / `down_heap`) hold in non-trivial situations where
the array is *not* a heap: -/
example : UpInv (exHeap.push ⟨"z", -9223372036854775808, 3⟩) 6 := upInv_push _ _ (by decide)
example : ¬ IsHeap (exHeap.push ⟨"z", -9223372036854775808, 3⟩) := by decide
example : DownInv (exHeap.swap 0 5) 0 5 0 := downInv_pop exHeap (by decide) (by decide)
example : ¬ IsHeap (exHeap.swap 0 5) := by decide

end Examples

#print axioms less_trans
#print axioms less_total
#print axioms up_heap
#print axioms down_heap
#print axioms heapPush_isHeap
#print axioms heapPop_isHeap
#print axioms heapPush_perm
#print axioms heapPop_perm
#print axioms heapPop_min
#print axioms heapInit_isHeap

end Heap
end VarmqVerif
