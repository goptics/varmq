import VarmqVerif.Proofs.PQRefine

/-!
# Priority queue: what the refinement (`Proofs/PQRefine.lean`) gives in the terms of priority.go; concrete runs
-/

namespace VarmqVerif
namespace PQ
open Heap SortedQueue
variable {α : Type}

theorem abs_sinv (s : State α) (h : Inv s) : SInv (abs s) :=
  ⟨sort_sorted _ h.nodup, fun it hit => h.bound it (mem_sort.mp hit)⟩

/-- `SortedQueue.deq_is_min_then_fifo` directly on the Go model: the value returned by `Dequeue` belongs to a stored
item that is strictly before (smaller priority, or equal priority and accepted earlier than) every
item that stays in the heap, and exactly that item is removed. -/
theorem deq_min_then_fifo_model (s s' : State α) (v : α) (h : Inv s)
    (hstep : step s .deq = (s', .item (some v))) :
    ∃ it : Item α, it.val = v ∧ s.items.toList.Perm (it :: s'.items.toList) ∧
      ∀ z ∈ s'.items.toList, it.prio < z.prio ∨ (it.prio = z.prio ∧ it.idx < z.idx) := by
  have hs := step_refines_exact s .deq h (by simp)
  rw [hstep] at hs
  obtain ⟨it, hv, hitems, hlt, _⟩ :=
    SortedQueue.deq_is_min_then_fifo (abs s) (abs s') v (abs_sinv s h) hs
  exact ⟨it, hv, (sort_perm _).symm.trans ((List.Perm.of_eq hitems).trans ((sort_perm _).cons it)),
    fun z hz => hlt z (mem_sort.mpr hz)⟩

/-- No operation ever decreases `insertionCount` — in particular `Purge` does **not** reset it
(priority.go `Purge` only replaces `internal.items`). -/
theorem insertionCount_mono (s : State α) (op : Op α) :
    s.insertionCount ≤ (step s op).1.insertionCount := by
  fun_cases step s op <;> simp

theorem run_insertionCount_mono (s : State α) (ops : List (Op α)) :
    s.insertionCount ≤ (run s ops).1.insertionCount := by
  induction ops generalizing s with
  | nil => exact Nat.le_refl _
  | cons op ops ih => exact Nat.le_trans (insertionCount_mono s op) (ih _)

/-- Together with `insertionCount_mono` (also across `Purge`): insertion indices are handed out in strictly increasing
acceptance order over the whole life of the queue, so "smallest index" in
`deq_is_min_then_fifo` means "accepted first", also after purge-and-reuse. -/
theorem index_fresh (s : State α) (x : α) (p : Int) (h : Inv s) (hc : s.closed = false) :
    (step s (.enq x p)).2 = .bool true ∧
    (step s (.enq x p)).1.insertionCount = s.insertionCount + 1 ∧
    (step s (.enq x p)).1.items.toList.Perm (⟨x, p, s.insertionCount⟩ :: s.items.toList) ∧
    ∀ it ∈ s.items.toList, it.idx < s.insertionCount := by
  rw [step_enq_open _ _ _ hc]
  exact ⟨rfl, rfl, heapPush_perm _ _, h.bound⟩

theorem enq_rejected_iff (s : State α) (x : α) (p : Int) :
    (step s (.enq x p)).2 = .bool false ↔ s.closed = true := by
  cases hc : s.closed <;> simp [step, hc]

theorem enq_rejected_unchanged (s : State α) (x : α) (p : Int) (hc : s.closed = true) :
    (step s (.enq x p)).1 = s := by
  rw [step_enq_closed _ _ _ hc]

/-- A pending item with the same priority as a newly accepted one is strictly before it. -/
theorem fifo_ties (s : State α) (x : α) (p : Int) (h : Inv s) (y : Item α)
    (hy : y ∈ s.items.toList) (hp : y.prio = p) :
    less y ⟨x, p, s.insertionCount⟩ = true := by
  rw [less_iff]; right; exact ⟨hp, h.bound y hy⟩

theorem step_purge (s : State α) :
    step s .purge = ({ s with items := #[] }, .unit) := by
  simp [step, heapInit_empty]

/-- FIFO among equal priorities, on the Go model, from any open state satisfying `Inv` with an empty heap
(a fresh queue, or one that was drained or purged — the counter value is irrelevant): enqueueing `xs`
with the same priority and then dequeueing `|xs|` times yields `xs` in acceptance order. -/
theorem fifo_same_priority (s : State α) (h : Inv s) (hc : s.closed = false)
    (he : s.items = #[]) (p : Int) (xs : List α) :
    (run s (xs.map (fun x => Op.enq x p) ++ List.replicate xs.length Op.deq)).2 =
      xs.map (fun _ => Out.bool true) ++ xs.map (fun x => Out.item (some x)) := by
  rw [run_refines_exact s _ h]
  · exact SortedQueue.fifo_same_priority (abs s) hc (by simp [abs, he, sort]) p xs
  · intro op hop
    simp only [List.mem_append, List.mem_map, List.mem_replicate] at hop
    rcases hop with ⟨x, _, rfl⟩ | ⟨_, rfl⟩ <;> simp

section Examples

/-- Negative, equal and extreme (`minInt64`, `maxInt64`) priorities, interleaved dequeues, `Values`
in heap order, `Purge` and reuse, `Close`, rejected `Enqueue`, draining a closed queue. -/
def demoOps : List (Op String) :=
  [.enq "a" 5, .enq "b" (-3), .enq "c" 5, .enq "d" 9223372036854775807,
   .enq "e" (-9223372036854775808), .enq "f" (-3), .len, .values, .deq, .deq,
   .enq "g" (-3), .deq, .deq, .values, .purge, .deq, .len, .enq "h" 0, .enq "i" 0, .enq "j" (-1),
   .deq, .deq, .close, .enq "k" 0, .deq, .deq, .len]

example : (run init demoOps).2 =
  [.bool true, .bool true, .bool true, .bool true, .bool true, .bool true, .nat 6,
   .list ["e", "b", "f", "d", "a", "c"],                    -- heap order: "d" (maxInt64) before "a"
   .item (some "e"), .item (some "b"), .bool true,
   .item (some "f"),                                         -- (-3, idx 5) before "g" = (-3, idx 6)
   .item (some "g"), .list ["a", "d", "c"], .unit, .item none, .nat 0,
   .bool true, .bool true, .bool true, .item (some "j"),
   .item (some "h"),                                         -- tie at priority 0 after Purge: FIFO
   .unit, .bool false, .item (some "i"), .item none, .nat 0] := by decide +kernel

/-- What the specification returns: the same except for the order inside the two `Values` results. -/
example : (SortedQueue.run SortedQueue.init demoOps).2 =
  [.bool true, .bool true, .bool true, .bool true, .bool true, .bool true, .nat 6,
   .list ["e", "b", "f", "a", "c", "d"],
   .item (some "e"), .item (some "b"), .bool true, .item (some "f"),
   .item (some "g"), .list ["a", "c", "d"], .unit, .item none, .nat 0,
   .bool true, .bool true, .bool true, .item (some "j"), .item (some "h"),
   .unit, .bool false, .item (some "i"), .item none, .nat 0] := by decide

/-- So plain equality of the output sequences is false here, `OutsEq` is the right statement … -/
example : (run init demoOps).2 ≠ (SortedQueue.run SortedQueue.init demoOps).2 := by decide +kernel
/-- … and it holds (instance of `refines_sorted`). -/
example : OutsEq (run init demoOps).2 (SortedQueue.run SortedQueue.init demoOps).2 :=
  refines_sorted demoOps

/-- White-box view after the first eight calls: a heap that is not sorted. -/
example : shape (run init (demoOps.take 8)).1 =
    [(-9223372036854775808, 4), (-3, 1), (-3, 5), (9223372036854775807, 3), (5, 0), (5, 2)] := by
  decide +kernel

/-- The counter survives `Purge` (10 accepted enqueues in `demoOps`, one rejected). -/
example : (run init demoOps).1 = { items := #[], insertionCount := 10, closed := true } := by
  decide +kernel

/-- `Inv` holds in non-trivial reachable states (hypothesis of `step_inv`, `step_refines`, …). -/
example : Inv (run init (demoOps.take 8)).1 := run_inv _ _ inv_init
example : (run init (demoOps.take 8)).1.items.size = 6 := by decide +kernel

/-- `Inv` is not trivially true: a duplicated insertion index, an index above the counter, or a
broken heap order violate it. -/
example : ¬ Inv ({ items := #[⟨"a", 0, 0⟩, ⟨"b", 1, 0⟩], insertionCount := 2, closed := false } : State String) :=
  fun h => absurd h.nodup (by unfold IdxNodup; decide)
example : ¬ Inv ({ items := #[⟨"a", 0, 5⟩], insertionCount := 2, closed := false } : State String) :=
  fun h => absurd (h.bound ⟨"a", 0, 5⟩ (by simp)) (by decide)
example : ¬ Inv ({ items := #[⟨"a", 1, 0⟩, ⟨"b", 0, 1⟩], insertionCount := 2, closed := false } : State String) :=
  fun h => absurd h.heap (by decide)

example : (run init (demoOps.filter (· ≠ .values))).2 =
    (SortedQueue.run SortedQueue.init (demoOps.filter (· ≠ .values))).2 :=
  refines_sorted_exact _ (by decide)

/-- `deq_is_min_then_fifo`: hypotheses instantiated on the specification state reached by the first
eight calls (six pending items); the dequeued value is "e" (priority `minInt64`). -/
example : ∃ it : Item String, it.val = "e" ∧
    ∀ z ∈ (SortedQueue.run SortedQueue.init (demoOps.take 8)).1.items,
      it.prio ≤ z.prio ∧ (z.prio = it.prio → it.idx ≤ z.idx) := by
  obtain ⟨it, hv, _, _, hmin⟩ :=
    SortedQueue.deq_is_min_then_fifo (SortedQueue.run SortedQueue.init (demoOps.take 8)).1 _ "e"
      (SortedQueue.run_sinv _ _ SortedQueue.sinv_init) (Prod.ext rfl (by decide))
  exact ⟨it, hv, hmin⟩

/-- `fifo_same_priority` on a fresh queue and on a purged one (counter at 3). -/
example : (run (init : State String)
      ([.enq "x" 7, .enq "y" 7, .enq "z" 7] ++ [.deq, .deq, .deq])).2 =
    [.bool true, .bool true, .bool true, .item (some "x"), .item (some "y"), .item (some "z")] :=
  fifo_same_priority init inv_init rfl (by simp [init, heapInit_empty]) 7 ["x", "y", "z"]
example : (run (run (init : State String) [.enq "p" 1, .enq "q" 0, .enq "r" 2, .purge]).1
      ([.enq "x" (-7), .enq "y" (-7)] ++ [.deq, .deq])).2 =
    [.bool true, .bool true, .item (some "x"), .item (some "y")] :=
  fifo_same_priority _ (run_inv _ _ inv_init) (by decide +kernel) (by decide +kernel) (-7) ["x", "y"]

end Examples

#print axioms inv_init
#print axioms step_inv
#print axioms step_refines
#print axioms step_refines_exact
#print axioms step_refines_values
#print axioms run_refines
#print axioms refines_sorted
#print axioms refines_sorted_exact
#print axioms refines_sorted_state
#print axioms SortedQueue.deq_is_min_then_fifo
#print axioms deq_min_then_fifo_model
#print axioms insertionCount_mono
#print axioms index_fresh
#print axioms fifo_ties
#print axioms fifo_same_priority
#print axioms inv_empty_any_count

end PQ
end VarmqVerif
