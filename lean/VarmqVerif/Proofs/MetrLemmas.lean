/-
  Inductive invariants of the metrics model `Metr` (Model/Metr.lean).

  `Cen`, the five conservation laws between the real counters, the ghost history counters and the ghost
  census, is pure arithmetic, inductive on its own thanks to the "ghost counter is 0" guards of `step`.
  `Sup s l` links the ghost census to the per-goroutine data over a support list `l`.  What needs no list
  (an entry is 0 iff nobody is in that phase, `owes g ≤ nOwes`) goes through `SumOf` (Proofs/SumOf.lean):
  `Sup.sumOf`, `Sup.sumOf_owes`.
-/
import VarmqVerif.Model.Metr
import VarmqVerif.Proofs.Guard
import VarmqVerif.Proofs.SumOf

namespace VarmqVerif
namespace Metr

/-- common opening: unfold the step function for one constructor, split all guards, discard the
    error branches, and substitute the successor state -/
macro "step_cases" h:ident : tactic =>
  `(tactic| (
    simp only [step] at $h:ident
    repeat' (split at $h:ident)
    all_goals (first | (cases $h:ident; done) | skip)
    all_goals (first | (injection $h:ident with $h:ident; subst $h:ident) | skip)))

theorem reach_run {s s' : State} {es : List Ev} (hr : Reach s) (h : run s es = .ok s') : Reach s' :=
  reach_of_run step run (fun _ => rfl) (fun s e _ => by cases h : step s e <;> simp only [run, h]) Reach.step hr h

def Cen (s : State) : Prop :=
  s.comp + s.nCounted = s.succ + s.fail ∧ s.succ + s.fail + s.nExited = s.exited ∧
  s.exited + s.nRunning = s.entered ∧ s.fail + s.nExitedBad = s.exitedBad ∧ s.sub + s.nOwes = s.accepted

theorem cen_step {s s' : State} {e : Ev} (hc : Cen s) (h : step s e = .ok s') : Cen s' := by
  unfold Cen at *
  revert h
  fun_cases step s e <;> rintro ⟨⟩ <;> grind

def sumOn {β : Type} (w : β → Nat) (f : Nat → β) (l : List Nat) : Nat := (l.map (fun x => w (f x))).sum

@[simp] theorem sumOn_nil {β : Type} (w : β → Nat) (f : Nat → β) : sumOn w f [] = 0 := rfl

@[simp] theorem sumOn_cons {β : Type} (w : β → Nat) (f : Nat → β) (a : Nat) (t : List Nat) :
    sumOn w f (a :: t) = w (f a) + sumOn w f t := by
  simp [sumOn]

theorem sumOn_upd_eq {β : Type} {w : β → Nat} {f : Nat → β} {g : Nat} {v : β} {l : List Nat} {n n' : Nat}
    (hn : l.Nodup) (hg : g ∈ l) (h : sumOn w f l = n) (h' : n' + w (f g) = n + w v) :
    sumOn w (upd f g v) l = n' := by
  have := sum_map_upd_mem (fun x => w (f x)) g (w v) l hn hg
  simp only [sumOn, upd, apply_ite w] at *
  omega

def ind (p : Ph → Prop) [DecidablePred p] (x : Ph) : Nat := if p x then 1 else 0

theorem sumOn_ind (p : Ph → Prop) [DecidablePred p] (f : Nat → Ph) (l : List Nat) :
    sumOn (ind p) f l = (l.filter fun g => p (f g)).length := by
  induction l with
  | nil => rfl
  | cons a t ih =>
    simp only [sumOn_cons, List.filter_cons, ih, ind]
    split <;> simp [*, Nat.add_comm]

theorem ind_eq_zero_iff (p : Ph → Prop) [DecidablePred p] (x : Ph) : ind p x = 0 ↔ ¬ p x := by
  simp [ind]

abbrev wRun := ind (· = .running)
abbrev wEx := ind fun x => x = .exited false ∨ x = .exited true
abbrev wBad := ind (· = .exited true)
abbrev wCnt := ind (· = .counted)

structure Sup (s : State) (l : List Nat) : Prop where
  nodup : l.Nodup
  out : ∀ g, g ∉ l → s.ph g = .idle ∧ s.owes g = 0
  run : sumOn wRun s.ph l = s.nRunning
  ex : sumOn wEx s.ph l = s.nExited
  bad : sumOn wBad s.ph l = s.nExitedBad
  cnt : sumOn wCnt s.ph l = s.nCounted
  owe : sumOn id s.owes l = s.nOwes

theorem sup_extend {s : State} {l : List Nat} (hs : Sup s l) (g : Nat) : ∃ l', Sup s l' ∧ g ∈ l' := by
  by_cases hg : g ∈ l
  · exact ⟨l, hs, hg⟩
  · obtain ⟨hi, ho⟩ := hs.out g hg
    refine ⟨g :: l, ⟨List.nodup_cons.mpr ⟨hg, hs.nodup⟩, fun x hx => hs.out x fun h => hx (List.mem_cons_of_mem g h),
      ?_, ?_, ?_, ?_, ?_⟩, List.mem_cons_self⟩
    · simp [hi, ind, hs.run]
    · simp [hi, ind, hs.ex]
    · simp [hi, ind, hs.bad]
    · simp [hi, ind, hs.cnt]
    · simp [ho, hs.owe]

theorem sup_ph {s s' : State} {l : List Nat} (hs : Sup s l) (g : Nat) (v : Ph)
    (hph : s'.ph = upd s.ph g v) (how : s'.owes = s.owes) (hno : s'.nOwes = s.nOwes)
    (h1 : s'.nRunning + wRun (s.ph g) = s.nRunning + wRun v)
    (h2 : s'.nExited + wEx (s.ph g) = s.nExited + wEx v)
    (h3 : s'.nExitedBad + wBad (s.ph g) = s.nExitedBad + wBad v)
    (h4 : s'.nCounted + wCnt (s.ph g) = s.nCounted + wCnt v) : ∃ l, Sup s' l := by
  obtain ⟨l, hs, hg⟩ := sup_extend hs g
  refine ⟨l, hs.nodup, fun x hx => ?_, ?_, ?_, ?_, ?_, ?_⟩
  · have hxg : x ≠ g := fun h => hx (h ▸ hg)
    rw [hph, how, upd_other _ _ _ _ hxg]
    exact hs.out x hx
  · exact hph ▸ sumOn_upd_eq hs.nodup hg hs.run h1
  · exact hph ▸ sumOn_upd_eq hs.nodup hg hs.ex h2
  · exact hph ▸ sumOn_upd_eq hs.nodup hg hs.bad h3
  · exact hph ▸ sumOn_upd_eq hs.nodup hg hs.cnt h4
  · rw [how, hno]; exact hs.owe

theorem sup_owes {s s' : State} {l : List Nat} (hs : Sup s l) (g : Nat) (v : Nat)
    (hph : s'.ph = s.ph) (how : s'.owes = upd s.owes g v) (hno : s'.nOwes + s.owes g = s.nOwes + v)
    (h1 : s'.nRunning = s.nRunning) (h2 : s'.nExited = s.nExited) (h3 : s'.nExitedBad = s.nExitedBad)
    (h4 : s'.nCounted = s.nCounted) : ∃ l, Sup s' l := by
  obtain ⟨l, hs, hg⟩ := sup_extend hs g
  refine ⟨l, hs.nodup, fun x hx => ?_, ?_, ?_, ?_, ?_, ?_⟩
  · have hxg : x ≠ g := fun h => hx (h ▸ hg)
    rw [hph, how, upd_other _ _ _ _ hxg]
    exact hs.out x hx
  · rw [hph, h1]; exact hs.run
  · rw [hph, h2]; exact hs.ex
  · rw [hph, h3]; exact hs.bad
  · rw [hph, h4]; exact hs.cnt
  · exact how ▸ sumOn_upd_eq hs.nodup hg hs.owe hno

theorem sup_step {s s' : State} {e : Ev} {l : List Nat} (hs : Sup s l) (h : step s e = .ok s') :
    ∃ l', Sup s' l' := by
  cases e <;> simp [step] at h
  case ld => exact ⟨l, h.2 ▸ hs⟩
  case enqOk g =>
    subst h
    exact sup_owes hs g _ rfl rfl (by simp only; omega) rfl rfl rfl rfl
  case incSub g _ =>
    obtain ⟨_, _, _, rfl⟩ := h
    exact sup_owes hs g _ rfl rfl (by simp only; omega) rfl rfl rfl rfl
  case enter g =>
    obtain ⟨hp, rfl⟩ := h
    refine sup_ph hs g _ rfl rfl rfl ?_ ?_ ?_ ?_ <;> simp [hp, ind]
  case exit g bad =>
    obtain ⟨hp, _, rfl⟩ := h
    refine sup_ph hs g _ rfl rfl rfl ?_ ?_ ?_ ?_ <;> cases bad <;> simp [hp, ind] <;> omega
  case incSucc g _ | incFail g _ | incComp g _ =>
    obtain ⟨hp, _, _, rfl⟩ := h
    refine sup_ph hs g _ rfl rfl rfl ?_ ?_ ?_ ?_ <;> simp [hp, ind] <;> omega

theorem reach_sup {s : State} (hr : Reach s) : ∃ l, Sup s l := by
  induction hr with
  | init => exact ⟨[], List.nodup_nil, fun _ _ => ⟨rfl, rfl⟩, rfl, rfl, rfl, rfl, rfl⟩
  | step e _ h ih =>
    obtain ⟨l, hs⟩ := ih
    exact sup_step hs h

theorem Sup.sumOf {s : State} {l : List Nat} (hs : Sup s l) {w : Ph → Nat} (hw : w .idle = 0) {n : Nat}
    (h : sumOn w s.ph l = n) : SumOf (fun g => w (s.ph g)) n :=
  ⟨l, hs.nodup, fun g hg => (congrArg w (hs.out g hg).1).trans hw, h⟩

theorem Sup.sumOf_owes {s : State} {l : List Nat} (hs : Sup s l) : SumOf s.owes s.nOwes :=
  ⟨l, hs.nodup, fun g hg => (hs.out g hg).2, hs.owe⟩

end Metr
end VarmqVerif
