import VarmqVerif.Model.PQ
import VarmqVerif.Spec.SortedQueue
import VarmqVerif.Proofs.Heap
import VarmqVerif.Proofs.SortedQueue

/-!
# The Go priority queue refines the stable sorted list

`PQ.step` (transcription of priority.go on top of the transcribed `container/heap`) is related to
`SortedQueue.step` by the abstraction function `abs` (sort the heap array by `less`).  All statements
are for arbitrary `α`, arbitrary `Int` priorities and operation sequences of any length.

Scope note: `Index` / `insertionCount` are Go `int`s; the model uses `Nat`.  After 2^63 accepted
enqueues on one queue the Go counter wraps to a negative number and the tie-break order of `Less`
would no longer be acceptance order.  That is outside this model (and outside any feasible run).
-/

namespace VarmqVerif
namespace PQ

open Heap SortedQueue
variable {α : Type}

theorem step_enq_closed (s : State α) (x : α) (p : Int) (h : s.closed = true) :
    step s (.enq x p) = (s, .bool false) := by
  simp [step, h]

theorem step_enq_open (s : State α) (x : α) (p : Int) (h : s.closed = false) :
    step s (.enq x p) =
      ({ s with insertionCount := s.insertionCount + 1,
                items := heapPush s.items ⟨x, p, s.insertionCount⟩ }, .bool true) := by
  simp [step, h]

theorem step_deq_empty (s : State α) (h : s.items.size = 0) :
    step s .deq = (s, .item none) := by
  simp [step, h]

theorem step_deq_nonempty (s : State α) (h : 0 < s.items.size) :
    step s .deq =
      ({ s with items := (heapPop s.items h).2 }, .item (some (heapPop s.items h).1.val)) := by
  have : ¬ s.items.size = 0 := by omega
  simp [step, this]

structure Inv (s : State α) : Prop where
  heap   : IsHeap s.items
  bound  : ∀ it ∈ s.items.toList, it.idx < s.insertionCount
  nodup  : IdxNodup s.items.toList

/-- Remark (counterfactual): on an *empty* heap the invariant holds for every counter value, so a
`Purge` that reset `insertionCount` to 0 would be just as correct — FIFO order among ties only needs
the counter to exceed the indices of the *pending* items.  The Go code does not reset it. -/
theorem inv_empty_any_count (c : Nat) (b : Bool) :
    Inv ({ items := #[], insertionCount := c, closed := b } : State α) :=
  ⟨isHeap_empty, by simp, by simp [IdxNodup]⟩

theorem Inv.nodup_cons {s : State α} (h : Inv s) (x : α) (p : Int) :
    IdxNodup (⟨x, p, s.insertionCount⟩ :: s.items.toList) :=
  idxNodup_cons.mpr ⟨fun y hy => Nat.ne_of_lt (h.bound y hy), h.nodup⟩

theorem inv_init : Inv (init : State α) := by
  simpa [init, heapInit_empty] using inv_empty_any_count (α := α) 0 false

theorem step_inv (s : State α) (op : Op α) (h : Inv s) : Inv (step s op).1 := by
  fun_cases step s op
  all_goals first | exact h | skip
  case case2 x prio _ i =>
    -- accepted `Enqueue`
    have hp := heapPush_perm s.items i
    refine ⟨heapPush_isHeap _ _ h.heap, fun it hit => ?_, (h.nodup_cons x prio).perm hp.symm⟩
    rcases List.mem_cons.mp (hp.mem_iff.mp hit) with rfl | hit
    · exact Nat.lt_succ_self _
    · exact Nat.lt_succ_of_lt (h.bound it hit)
  case case4 he r =>
    -- `Dequeue` of a non-empty queue
    have hp := heapPop_perm s.items (by omega)
    exact ⟨heapPop_isHeap _ h.heap _,
      fun it hit => h.bound it (hp.mem_iff.mpr (List.mem_cons_of_mem _ hit)),
      (idxNodup_cons.mp (h.nodup.perm hp)).2⟩
  case case7 =>
    -- `Purge`
    simpa [heapInit_empty] using inv_empty_any_count s.insertionCount s.closed
  case case8 => exact ⟨h.heap, h.bound, h.nodup⟩ -- `Close`

theorem run_inv (s : State α) (ops : List (Op α)) (h : Inv s) : Inv (run s ops).1 := by
  induction ops generalizing s with
  | nil => exact h
  | cons op ops ih => exact ih _ (step_inv s op h)

def abs (s : State α) : SortedQueue.State α :=
  { items := sort s.items.toList, insertionCount := s.insertionCount, closed := s.closed }

/-- Output equivalence: equal, except that two `Values()` results only have to be permutations of
each other (the Go code returns the values in heap-array order, the specification in dequeue order). -/
def OutEq : Out α → Out α → Prop
  | .list l₁, .list l₂ => l₁.Perm l₂
  | o₁, o₂ => o₁ = o₂

def OutsEq : List (Out α) → List (Out α) → Prop
  | [], [] => True
  | a :: as, b :: bs => OutEq a b ∧ OutsEq as bs
  | _, _ => False

theorem OutEq.refl (o : Out α) : OutEq o o := by
  cases o <;> simp [OutEq]

theorem abs_init : abs (init : State α) = SortedQueue.init := by
  simp [abs, init, SortedQueue.init, heapInit_empty, sort]

/-- Key fact for `Dequeue`: the sorted view of a non-empty heap is the item `heap.Pop` returns followed
by the sorted view of the heap it leaves behind. -/
theorem abs_items_of_nonempty (s : State α) (h : Inv s) (hpos : 0 < s.items.size) :
    (abs s).items = (heapPop s.items hpos).1 :: sort (heapPop s.items hpos).2.toList := by
  have hp := heapPop_perm s.items hpos
  show sort s.items.toList = _
  rw [sort_eq_of_perm h.nodup hp]
  apply sort_cons_min _ _ (h.nodup.perm hp)
  intro x hx
  apply heapPop_min s.items h.heap hpos
  exact Array.mem_def.mpr (hp.mem_iff.mpr (List.mem_cons_of_mem _ hx))

theorem step_refines_exact (s : State α) (op : Op α) (h : Inv s) (hop : op ≠ .values) :
    SortedQueue.step (abs s) op = (abs (step s op).1, (step s op).2) := by
  cases op with
  | enq x prio =>
    by_cases hc : s.closed = true
    · rw [step_enq_closed _ _ _ hc, SortedQueue.step_enq_closed _ _ _ hc]
    · have hc' : s.closed = false := by simpa using hc
      rw [step_enq_open _ _ _ hc', SortedQueue.step_enq_open _ _ _ hc']
      simp only [abs]
      rw [← sort_eq_of_perm (h.nodup_cons x prio) (heapPush_perm _ _).symm]
      rfl -- `sort (i :: l) = insert i (sort l)`
  | deq =>
    by_cases he : s.items.size = 0
    · have hnil : (abs s).items = [] := by
        have : s.items = #[] := Array.eq_empty_of_size_eq_zero he
        simp [abs, this, sort]
      rw [step_deq_empty _ he, SortedQueue.step_deq_nil _ hnil]
    · have hpos : 0 < s.items.size := by omega
      rw [step_deq_nonempty _ hpos, SortedQueue.step_deq_cons _ _ _ (abs_items_of_nonempty s h hpos)]
      rfl
  | len => simp [step, SortedQueue.step, abs, length_sort]
  | values => exact absurd rfl hop
  | purge => simp [step, SortedQueue.step, abs, heapInit_empty, sort]
  | close => rfl

theorem step_refines_values (s : State α) :
    (step s .values).2 = .list (s.items.toList.map (·.val)) ∧
    (SortedQueue.step (abs s) .values).2 = .list ((sort s.items.toList).map (·.val)) ∧
    (s.items.toList.map (·.val)).Perm ((sort s.items.toList).map (·.val)) :=
  ⟨rfl, rfl, ((sort_perm _).map _).symm⟩

theorem step_refines (s : State α) (op : Op α) (h : Inv s) :
    (SortedQueue.step (abs s) op).1 = abs (step s op).1 ∧
    OutEq (step s op).2 (SortedQueue.step (abs s) op).2 := by
  by_cases hop : op = .values
  · subst hop; exact ⟨rfl, (step_refines_values s).2.2⟩
  · rw [step_refines_exact s op h hop]; exact ⟨rfl, OutEq.refl _⟩

theorem OutsEq.refl (l : List (Out α)) : OutsEq l l := by
  induction l with
  | nil => trivial
  | cons o os ih => exact ⟨OutEq.refl o, ih⟩

theorem outsEq_iff (l₁ l₂ : List (Out α)) :
    OutsEq l₁ l₂ ↔ l₁.length = l₂.length ∧
      ∀ i (h₁ : i < l₁.length) (h₂ : i < l₂.length), OutEq l₁[i] l₂[i] := by
  induction l₁ generalizing l₂ with
  | nil => cases l₂ <;> simp [OutsEq]
  | cons a as ih =>
    cases l₂ with
    | nil => simp [OutsEq]
    | cons b bs =>
      simp only [OutsEq, ih, List.length_cons, Nat.add_right_cancel_iff]
      constructor
      · rintro ⟨hab, hl, hi⟩
        refine ⟨hl, ?_⟩
        intro i h₁ h₂
        cases i with
        | zero => exact hab
        | succ i => exact hi i (by omega) (by omega)
      · rintro ⟨hl, hi⟩
        exact ⟨hi 0 (by omega) (by omega), hl,
          fun i h₁ h₂ => hi (i + 1) (by omega) (by omega)⟩

theorem run_refines (s : State α) (ops : List (Op α)) (h : Inv s) :
    (SortedQueue.run (abs s) ops).1 = abs (run s ops).1 ∧
    OutsEq (run s ops).2 (SortedQueue.run (abs s) ops).2 := by
  induction ops generalizing s with
  | nil => exact ⟨rfl, trivial⟩
  | cons op ops ih =>
    have hs := step_refines s op h
    have := ih (step s op).1 (step_inv s op h)
    simp only [run, SortedQueue.run, hs.1]
    exact ⟨this.1, hs.2, this.2⟩

/-- For every sequence of calls on a fresh `PriorityQueue`, the Go implementation
(binary heap via `container/heap`) returns the same outputs as the stable sorted list, where the two
results of a `Values()` call are compared as multisets (`OutEq`). -/
theorem refines_sorted (ops : List (Op α)) :
    OutsEq (run init ops).2 (SortedQueue.run SortedQueue.init ops).2 := by
  have := (run_refines init ops inv_init).2
  rwa [abs_init] at this

theorem refines_sorted_state (ops : List (Op α)) :
    abs (run init ops).1 = (SortedQueue.run SortedQueue.init ops).1 := by
  have := (run_refines init ops inv_init).1
  rw [abs_init] at this; exact this.symm

theorem run_refines_exact (s : State α) (ops : List (Op α)) (h : Inv s)
    (hv : ∀ op ∈ ops, op ≠ .values) :
    (run s ops).2 = (SortedQueue.run (abs s) ops).2 := by
  induction ops generalizing s with
  | nil => rfl
  | cons op ops ih =>
    have hv := List.forall_mem_cons.mp hv
    simp only [run, SortedQueue.run, step_refines_exact s op h hv.1, ih _ (step_inv s op h) hv.2]

theorem refines_sorted_exact (ops : List (Op α)) (hv : ∀ op ∈ ops, op ≠ .values) :
    (run init ops).2 = (SortedQueue.run SortedQueue.init ops).2 := by
  have := run_refines_exact init ops inv_init hv
  rwa [abs_init] at this

end PQ
end VarmqVerif
