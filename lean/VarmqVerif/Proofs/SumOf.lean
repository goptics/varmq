/-
  `SumOf f n`: the ghost counter `n` (owed notify() calls, owed Broadcasts) is the sum of the per-goroutine
  counts `f` over a finite duplicate-free support.  For the models `Sig`, `Sig2`, `Wake`; each has its own
  `upd`, which unfolds to the `fun x => if x = g then v else f x` used here.  `Metr` keeps the support list of its
  census in the open (`sumOn`, Proofs/MetrLemmas.lean): it uses `sum_map_upd_mem` directly and the `sumOf_*` lemmas
  where the list does not matter.
-/
namespace VarmqVerif

theorem sum_map_upd_not_mem (f : Nat → Nat) (g v : Nat) (l : List Nat) (hg : g ∉ l) :
    (l.map fun x => if x = g then v else f x).sum = (l.map f).sum :=
  congrArg _ (List.map_congr_left fun x hx => if_neg fun h : x = g => hg (h ▸ hx))

theorem sum_map_upd_mem (f : Nat → Nat) (g v : Nat) (l : List Nat) (hn : l.Nodup) (hg : g ∈ l) :
    (l.map fun x => if x = g then v else f x).sum + f g = (l.map f).sum + v := by
  induction l with
  | nil => cases hg
  | cons a t ih =>
    rw [List.nodup_cons] at hn
    by_cases ha : a = g
    · subst ha
      simp only [List.map_cons, List.sum_cons, if_pos, sum_map_upd_not_mem f a v t hn.1]
      omega
    · have := ih hn.2 ((List.mem_cons.mp hg).resolve_left (Ne.symm ha))
      simp only [List.map_cons, List.sum_cons, if_neg ha]
      omega

theorem le_sum_of_mem (f : Nat → Nat) {g : Nat} {l : List Nat} (hg : g ∈ l) : f g ≤ (l.map f).sum := by
  induction l with
  | nil => cases hg
  | cons a t ih =>
    simp only [List.map_cons, List.sum_cons]
    rcases List.mem_cons.mp hg with rfl | h
    · omega
    · have := ih h; omega

def SumOf (f : Nat → Nat) (n : Nat) : Prop :=
  ∃ l : List Nat, l.Nodup ∧ (∀ g, g ∉ l → f g = 0) ∧ (l.map f).sum = n

variable {f : Nat → Nat} {n : Nat}

theorem sumOf_zero : SumOf (fun _ => 0) 0 := ⟨[], by simp, by simp, by simp⟩

theorem SumOf.mem (hs : SumOf f n) (g : Nat) :
    ∃ l : List Nat, g ∈ l ∧ l.Nodup ∧ (∀ x, x ∉ l → f x = 0) ∧ (l.map f).sum = n := by
  obtain ⟨l, hn, h0, hsum⟩ := hs
  by_cases hg : g ∈ l
  · exact ⟨l, hg, hn, h0, hsum⟩
  · exact ⟨g :: l, List.mem_cons_self, List.nodup_cons.mpr ⟨hg, hn⟩,
      fun x hx => h0 x fun h => hx (List.mem_cons_of_mem g h), by simp [h0 g hg, hsum]⟩

theorem sumOf_upd (hs : SumOf f n) (g v m : Nat) (hm : m + f g = n + v) : SumOf (fun x => if x = g then v else f x) m := by
  obtain ⟨l, hg, hn, h0, hsum⟩ := hs.mem g
  refine ⟨l, hn, fun x hx => (if_neg fun h : x = g => hx (h ▸ hg)).trans (h0 x hx), ?_⟩
  have := sum_map_upd_mem f g v l hn hg
  omega

theorem sumOf_le (hs : SumOf f n) (g : Nat) : f g ≤ n := by
  obtain ⟨l, hg, _, _, hsum⟩ := hs.mem g
  exact hsum ▸ le_sum_of_mem f hg

theorem sumOf_incr (hs : SumOf f n) (g : Nat) : SumOf (fun x => if x = g then f g + 1 else f x) (n + 1) :=
  sumOf_upd hs g _ _ (by omega)

theorem sumOf_decr (hs : SumOf f n) (g : Nat) (hpos : f g ≠ 0) : SumOf (fun x => if x = g then f g - 1 else f x) (n - 1) :=
  sumOf_upd hs g _ _ (by have := sumOf_le hs g; omega)

theorem sumOf_pos_iff (hs : SumOf f n) : 0 < n ↔ ∃ g, 0 < f g := by
  refine ⟨fun h => ?_, fun ⟨g, hp⟩ => Nat.lt_of_lt_of_le hp (sumOf_le hs g)⟩
  obtain ⟨l, _, _, rfl⟩ := hs
  obtain ⟨_, hx, hp⟩ := List.sum_pos_iff_exists_pos_nat.mp h
  obtain ⟨g, _, rfl⟩ := List.mem_map.mp hx
  exact ⟨g, hp⟩

theorem sumOf_eq_zero_iff (hs : SumOf f n) : n = 0 ↔ ∀ g, f g = 0 := by
  simpa [Nat.pos_iff_ne_zero] using not_congr (sumOf_pos_iff hs)

/-- why the guards "ghost counter is 0" of the models are dead -/
theorem sumOf_ne_zero (hs : SumOf f n) {g : Nat} (h : f g ≠ 0) : n ≠ 0 :=
  fun hn => h ((sumOf_eq_zero_iff hs).mp hn g)

end VarmqVerif
