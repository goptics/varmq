/-
  Theorems about the wake-up protocol model `Sig` (Model/Sig.lean): no lost wake-up, for every
  reachable state (any number of goroutines and events).
  The inductive invariant is `Inv` in Proofs/SigLemmas.lean (`reach_inv`); its clause (B) is
  `stale_cur_covered`.
-/
import VarmqVerif.Proofs.SigLemmas

namespace VarmqVerif
namespace Sig

/-- `State` has a function field, so it has no `DecidableEq`: the examples compare this projection. -/
structure View where
  ws : Nat
  cur : Nat
  conc : Nat
  qlen : Nat
  tok : Bool
  nOwes : Nat
  dph : DPh
  deriving DecidableEq, Repr

def view (s : State) : View := ⟨s.ws, s.cur, s.conc, s.qlen, s.tok, s.nOwes, s.dph⟩

def runProj {α : Type} (f : State → α) (c : Nat) (evs : List Ev) : Option α :=
  match run (init c) evs with
  | .ok s => some (f s)
  | .error _ => none

theorem reach_of_view {c : Nat} {evs : List Ev} {ws cur conc qlen nOwes : Nat} {tok : Bool} {dph : DPh}
    (h : runProj view c evs = some ⟨ws, cur, conc, qlen, tok, nOwes, dph⟩) :
    ∃ s, Reach s ∧ s.ws = ws ∧ s.cur = cur ∧ s.conc = conc ∧ s.qlen = qlen ∧ s.tok = tok ∧
      s.nOwes = nOwes ∧ s.dph = dph := by
  unfold runProj at h
  split at h
  · next s hs =>
    simp only [Option.some.injEq, view, View.mk.injEq] at h
    exact ⟨s, reach_run (.init c) evs hs, h⟩
  · cases h

-- the examples name a reachable state by its run, `reach_run (.init c) evs rfl`, and `decide` what they claim of it
instance (s : State) : Decidable (Dispatchable s) := inferInstanceAs (Decidable (_ ∧ _))
instance (s : State) : Decidable (Asleep s) := inferInstanceAs (Decidable (_ ∧ _))

/-- conc = 1.  Start + notify; the event loop wakes, evaluates the condition and reads Len() = 0
    (event 7); before it has parked an Add enqueues and notifies (8, 9: the token is put into the
    empty channel); the loop parks (10), receives that token (11), evaluates again, reserves,
    dequeues, re-evaluates with cur = conc and parks (21). -/
def exOvertaken : List Ev := [
  .stStatus 7 running, .notify 7 true, .recvTok 0, .dStatus 0 running, .dCur 0 0, .dConc 0 1, .dLen 0 0,
  .enq 5, .notify 5 true, .dCur 0 0,
  .recvTok 0, .dStatus 0 running, .dCur 0 0, .dConc 0 1, .dLen 0 1, .dCasOk 0, .dDeq 0,
  .dStatus 0 running, .dCur 0 1, .dConc 0 1, .dCur 0 1]

example : exOvertaken.length = 21 := rfl
-- 7: Len() = 0 was read, the loop is on its way to park, nothing is pending
example : runProj view 1 (exOvertaken.take 7) = some ⟨1, 0, 1, 0, false, 0, .exiting⟩ := by decide
-- 8: overtaken by the enqueue: dispatchable, loop inactive, no token: only the owed notify() covers it
example : runProj view 1 (exOvertaken.take 8) = some ⟨1, 0, 1, 1, false, 1, .exiting⟩ := by decide
-- 9: the notify() put the token into the channel: only the token covers it
example : runProj view 1 (exOvertaken.take 9) = some ⟨1, 0, 1, 1, true, 0, .exiting⟩ := by decide
-- 10: parked with the token pending
example : runProj view 1 (exOvertaken.take 10) = some ⟨1, 0, 1, 1, true, 0, .parked⟩ := by decide
-- 11: woken again: only the activity of the loop covers it
example : runProj view 1 (exOvertaken.take 11) = some ⟨1, 0, 1, 1, false, 0, .fresh⟩ := by decide
-- 17: the item was reserved and dequeued
example : runProj view 1 (exOvertaken.take 17) = some ⟨1, 1, 1, 0, false, 0, .busy⟩ := by decide
-- 21: asleep, saturated, nothing pending
example : runProj view 1 exOvertaken = some ⟨1, 1, 1, 0, false, 0, .parked⟩ := by decide

/-- conc = 2, three items.  The loop dispatches two, finds cur = conc and parks with one item still
    queued: asleep and saturated. -/
def exSaturated : List Ev := [
  .stStatus 7 running, .notify 7 true, .enq 5, .notify 5 false, .enq 5, .notify 5 false, .enq 6, .notify 6 false,
  .recvTok 0, .dStatus 0 running, .dCur 0 0, .dConc 0 2, .dLen 0 3, .dCasOk 0, .dDeq 0,
  .dStatus 0 running, .dCur 0 1, .dConc 0 2, .dLen 0 2, .dCasOk 0, .dDeq 0,
  .dStatus 0 running, .dCur 0 2, .dConc 0 2, .dCur 0 2]

example : exSaturated.length = 25 := rfl
example : runProj view 2 exSaturated = some ⟨1, 2, 2, 1, false, 0, .parked⟩ := by decide

/-- conc = 1, two items.  After dispatching the first the loop loads cur = 1 (event 15); a runner
    releases (16: cur = 0); the loop compares the stale 1 with conc = 1 and leaves (17) although
    cur < conc holds by now.  The state is dispatchable, the loop inactive, the channel empty: the
    runner's owed notify() (18) is what covers it (clause (B) of the invariant). -/
def exStaleCur : List Ev := [
  .stStatus 7 running, .notify 7 true, .enq 5, .notify 5 false, .enq 5, .notify 5 false,
  .recvTok 0, .dStatus 0 running, .dCur 0 0, .dConc 0 1, .dLen 0 2, .dCasOk 0, .dDeq 0,
  .dStatus 0 running, .dCur 0 1, .relX 9 0, .dConc 0 1,
  .notify 9 true, .dCur 0 0, .recvTok 0]

example : exStaleCur.length = 20 := rfl
example : runProj view 1 (exStaleCur.take 15) = some ⟨1, 1, 1, 1, false, 0, .sawCur 1⟩ := by decide
example : runProj view 1 (exStaleCur.take 16) = some ⟨1, 0, 1, 1, false, 1, .sawCur 1⟩ := by decide
example : runProj view 1 (exStaleCur.take 17) = some ⟨1, 0, 1, 1, false, 1, .exiting⟩ := by decide
example : runProj view 1 exStaleCur = some ⟨1, 0, 1, 1, false, 0, .fresh⟩ := by decide

-- rejected: the loop receives while the channel is empty (a wake-up out of nothing) …
example : runProj view 1 [.stStatus 7 running, .enq 5, .recvTok 0] = none := by decide
-- … receives again before it has parked …
example : runProj view 1 [.stStatus 7 running, .notify 7 true, .recvTok 0, .notify 7 true, .recvTok 0] = none := by decide
-- … a send that reports "sent" although the token was already there, or "not sent" on an empty channel
example : runProj view 1 [.notify 7 true, .notify 7 true] = none := by decide
example : runProj view 1 [.notify 7 false] = none := by decide

/-- No lost wake-up (C03).  Whenever the worker is running, a slot is free and a job is pending, either a
    wake-up token is in the signal channel, or some goroutine still owes a notify(), or the event loop is
    active and will evaluate its condition again — in every interleaving: work is never left with nobody
    bound to look at it. -/
theorem no_lost_wakeup {s : State} (hr : Reach s) (hd : Dispatchable s) :
    s.tok = true ∨ 0 < s.nOwes ∨ s.dph.active = true :=
  (reach_inv hr).1 hd

-- non-vacuity: reachable dispatchable states in which exactly one of the three disjuncts holds
example : ∃ s, Reach s ∧ Dispatchable s ∧ s.tok = false ∧ 0 < s.nOwes ∧ s.dph.active = false :=
  ⟨_, reach_run (.init 1) (exOvertaken.take 8) rfl, by decide⟩

example : ∃ s, Reach s ∧ Dispatchable s ∧ s.tok = true ∧ s.nOwes = 0 ∧ s.dph.active = false :=
  ⟨_, reach_run (.init 1) (exOvertaken.take 10) rfl, by decide⟩

example : ∃ s, Reach s ∧ Dispatchable s ∧ s.tok = false ∧ s.nOwes = 0 ∧ s.dph.active = true :=
  ⟨_, reach_run (.init 1) (exOvertaken.take 11) rfl, by decide⟩

/-- Clause (B) of the invariant.  The event loop may compare a stale `cur.Load()` with the limit and go to
    sleep although a runner has released a slot since: that runner's notify(), still owed or already the
    token, wakes it again. -/
theorem stale_cur_covered {s : State} {c : Nat} (hr : Reach s) (hp : s.dph = .sawCur c) (hc : s.cur < c) :
    s.tok = true ∨ 0 < s.nOwes :=
  ((reach_inv hr).2 c hp).resolve_left (Nat.not_le.mpr hc)

example : ∃ s c, Reach s ∧ s.dph = .sawCur c ∧ s.cur < c ∧ Dispatchable s :=
  ⟨_, 1, reach_run (.init 1) (exStaleCur.take 16) rfl, by decide⟩

theorem asleep_not_dispatchable {s : State} (hr : Reach s) (ha : Asleep s) : ¬ Dispatchable s := fun hd => by
  obtain ⟨h1, h2, h3⟩ := ha
  simpa [h1, h2, h3] using no_lost_wakeup hr hd

theorem asleep_characterisation {s : State} (hr : Reach s) (ha : Asleep s) :
    s.ws ≠ running ∨ s.conc ≤ s.cur ∨ s.qlen = 0 := by
  have h := asleep_not_dispatchable hr ha
  unfold Dispatchable at h
  omega

/-- At rest min(pending + in flight, limit) slots are in use: the pool is saturated or nothing is
    pending. -/
theorem asleep_min_parallel {s : State} (hr : Reach s) (ha : Asleep s) (hw : s.ws = running) :
    min (s.cur + s.qlen) s.conc ≤ s.cur := by
  have h := asleep_characterisation hr ha
  omega

-- non-vacuity: asleep while running, saturated with work pending / with nothing pending
example : ∃ s, Reach s ∧ Asleep s ∧ s.ws = running ∧ s.cur = s.conc ∧ 0 < s.qlen :=
  ⟨_, reach_run (.init 2) exSaturated rfl, by decide⟩

example : ∃ s, Reach s ∧ Asleep s ∧ s.ws = running ∧ s.cur = s.conc ∧ s.qlen = 0 :=
  ⟨_, reach_run (.init 1) exOvertaken rfl, by decide⟩

-- asleep on the way to parking (phase `exiting`), slots free, nothing pending
example : ∃ s, Reach s ∧ Asleep s ∧ s.ws = running ∧ s.cur < s.conc ∧ s.qlen = 0 ∧ s.dph = .exiting :=
  ⟨_, reach_run (.init 1) (exOvertaken.take 7) rfl, by decide⟩

theorem owes_sum {s : State} (hr : Reach s) :
    ∃ l : List Nat, l.Nodup ∧ (∀ g, g ∉ l → s.owes g = 0) ∧ (l.map s.owes).sum = s.nOwes :=
  reach_ghost hr

theorem owes_le_nOwes {s : State} (hr : Reach s) (g : Nat) : s.owes g ≤ s.nOwes :=
  sumOf_le (reach_ghost hr) g

theorem nOwes_pos_iff {s : State} (hr : Reach s) : 0 < s.nOwes ↔ ∃ g, 0 < s.owes g :=
  sumOf_pos_iff (reach_ghost hr)

theorem nOwes_eq_zero_iff {s : State} (hr : Reach s) : s.nOwes = 0 ↔ ∀ g, s.owes g = 0 :=
  sumOf_eq_zero_iff (reach_ghost hr)

/-- notify() is enabled in every reachable state with the send result the channel dictates: the
    guard "ghost counter nOwes is 0" of `step` is dead. -/
theorem notify_enabled {s : State} (hr : Reach s) (g : Nat) : ∃ s', step s (.notify g (!s.tok)) = .ok s' := by
  have hn := sumOf_ne_zero (reach_ghost hr) (g := g)
  by_cases h0 : s.owes g = 0 <;> cases ht : s.tok <;> simp [step, ht, h0, hn]

theorem no_lost_wakeup_witness {s : State} (hr : Reach s) (hd : Dispatchable s) :
    s.tok = true ∨ (∃ g, 0 < s.owes g) ∨ s.dph.active = true :=
  (no_lost_wakeup hr hd).imp_right (.imp_left (nOwes_pos_iff hr).mp)

-- non-vacuity of the ghost link: two goroutines owe three calls
example : runProj (fun s => (s.owes 5, s.owes 6, s.owes 7, s.nOwes)) 1 [.enq 5, .enq 6, .enq 5, .stStatus 7 running, .notify 7 true]
    = some (2, 1, 0, 3) := by decide

#print axioms no_lost_wakeup
#print axioms no_lost_wakeup_witness
#print axioms stale_cur_covered
#print axioms asleep_not_dispatchable
#print axioms asleep_characterisation
#print axioms asleep_min_parallel
#print axioms owes_sum
#print axioms owes_le_nOwes
#print axioms nOwes_pos_iff
#print axioms nOwes_eq_zero_iff
#print axioms notify_enabled

end Sig
end VarmqVerif
