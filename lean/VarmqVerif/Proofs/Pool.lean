/-
  Theorems about the `Pool` model (ownership of worker-pool nodes; C01/C03: a job handed to a node is
  never stranded), for ALL reachable states — unbounded nodes, goroutines, events.

  The inductive invariant is `Inv` in `PoolLemmas.lean`; its core is the server accounting

      (s.nodes n).srvs.length = pend (s.nodes n) + live (s.nodes n).loc          (`srvs_count`)

  (`pend` = sentinels in the channel, `live` = 1 for held/idle/inflight, 0 otherwise), from which every
  statement below is a two-line consequence.

  Why the model has `Loc.fresh`: it transcribes `initPoolNode` (`Cache.Get(); go Serve`), where whoever gets a
  node from the cache starts exactly one `Serve` goroutine before doing anything else with it. With `get`
  giving `held g` directly and `spawn` only asking for `held g`, a holder could skip `go Serve` or start it
  repeatedly, these runs would be accepted and the counting statements false:
      [get 0 0, spawn 0 0 1, spawn 0 0 2, spawn 0 0 3]   held, srvs = [3,2,1]            (servers_bounded)
      [get 0 0, push 0 0]                                idle, srvs = []                 (idle_ready)
      [get 0 0, sendJob 0 0 7]                           inflight, job 7, srvs = []      (inflight_has_server, recv_enabled)
      [get 0 0, sendStop 0 0]                            buf = stop, srvs = []           (recv_enabled)
      [get 0 0, sendStop 0 0, put 0 0, get 1 0]          held 1, buf = stop, srvs = []   (held_send_unblocks)
  With `Loc.fresh` they are rejected at the step that skips or repeats `go Serve` (`example` at the end).
-/
import VarmqVerif.Proofs.PoolLemmas
import VarmqVerif.Proofs.Guard

namespace VarmqVerif
namespace Pool

variable {s : State} {n : Nat}

theorem idle_iff (h : Reach s) : n ∈ s.idle ↔ (s.nodes n).loc = .idle := (Inv.of_reach h).mem n

theorem idle_nodup (h : Reach s) : s.idle.Nodup := (Inv.of_reach h).nodup

theorem srvs_count (h : Reach s) : (s.nodes n).srvs.length = pend (s.nodes n) + live (s.nodes n).loc :=
  ((Inv.of_reach h).node n).cnt

theorem srvs_nodup (h : Reach s) : (s.nodes n).srvs.Nodup := ((Inv.of_reach h).node n).nodup

/-- `eff` is a function of the location alone. -/
theorem eff_eq_live (h : Reach s) : eff (s.nodes n) = live (s.nodes n).loc := by
  have := srvs_count (n := n) h
  simp only [pend] at this
  simp only [eff]
  omega

theorem job_in_buffer_inflight (h : Reach s) {j : Nat} (hb : (s.nodes n).buf = some (.job j)) :
    (s.nodes n).loc = .inflight := ((Inv.of_reach h).node n).job_inflight j hb

/-- Whatever sits in a node channel has a server: a sentinel is pending, or the node is in flight. -/
theorem buf_has_server (h : Reach s) {m : Msg} (hb : (s.nodes n).buf = some m) : (s.nodes n).srvs ≠ [] := by
  have := srvs_count (n := n) h
  intro h0
  cases m with
  | stop => simp [h0, pend, hb] at this; omega
  | job j => simp [h0, live, job_in_buffer_inflight h hb] at this

theorem inflight_exact (h : Reach s) (hl : (s.nodes n).loc = .inflight) :
    (s.nodes n).srvs.length = 1 ∧ ∃ j, (s.nodes n).buf = some (.job j) := by
  obtain ⟨j, hj⟩ := ((Inv.of_reach h).node n).inflight_job hl
  have := srvs_count (n := n) h
  simp [pend, hj, hl, live] at this
  exact ⟨this, j, hj⟩

/-- C01/C03: a job handed to a node is never stranded: a goroutine is serving that node's channel. -/
theorem inflight_has_server (h : Reach s) (hl : (s.nodes n).loc = .inflight) :
    (s.nodes n).srvs ≠ [] ∧ ∃ j, (s.nodes n).buf = some (.job j) :=
  have ⟨h1, h2⟩ := inflight_exact h hl
  ⟨fun h0 => by simp [h0] at h1, h2⟩

/-- Whatever sits in a node channel can be received: no message without a receiver (in particular no
    stop sentinel in a node whose servers have all gone). -/
theorem recv_enabled (h : Reach s) {m : Msg} (hb : (s.nodes n).buf = some m) :
    ∃ r s', step s (.recv r n m) = .ok s' := by
  obtain ⟨r, hr⟩ := List.exists_mem_of_ne_nil _ (buf_has_server h hb)
  refine ⟨r, ?_⟩
  cases m <;> simp [step, hr, hb]

theorem idle_ready (h : Reach s) {j : Nat} (hl : (s.nodes n).loc = .idle) :
    eff (s.nodes n) = 1 ∧ (s.nodes n).buf ≠ some (.job j) := by
  refine ⟨by rw [eff_eq_live h, hl]; rfl, fun hb => ?_⟩
  have := job_in_buffer_inflight h hb
  rw [hl] at this; cases this

theorem held_ready (h : Reach s) {g : Nat} (hl : (s.nodes n).loc = .held g) : eff (s.nodes n) = 1 := by
  rw [eff_eq_live h, hl]; rfl

/-- A holder's send can only be delayed by a pending sentinel, which somebody will consume (there are
    then exactly two servers: the old one, about to leave, and the new one): no deadlock on the 1-slot
    channel. -/
theorem held_send_unblocks (h : Reach s) {g : Nat} {m : Msg} (hl : (s.nodes n).loc = .held g)
    (hb : (s.nodes n).buf = some m) : m = .stop ∧ (s.nodes n).srvs ≠ [] := by
  refine ⟨?_, buf_has_server h hb⟩
  cases m with
  | stop => rfl
  | job j => have := job_in_buffer_inflight h hb; rw [hl] at this; cases this

theorem held_blocked_two_servers (h : Reach s) {g : Nat} (hl : (s.nodes n).loc = .held g)
    (hb : (s.nodes n).buf = some .stop) : (s.nodes n).srvs.length = 2 := by
  have := srvs_count (n := n) h
  simpa [pend, hb, hl, live] using this

/-- Progress of a holder: its send is enabled now, or after one receive of the pending sentinel. -/
theorem held_send_eventually (h : Reach s) {g j : Nat} (hl : (s.nodes n).loc = .held g) :
    (∃ s', step s (.sendJob g n j) = .ok s') ∨
    (∃ r s₁ s', step s (.recv r n .stop) = .ok s₁ ∧ step s₁ (.sendJob g n j) = .ok s') := by
  cases hb : (s.nodes n).buf with
  | none => left; simp [step, hl, hb]
  | some m =>
    -- the pending message is the sentinel; its receipt (`recv_enabled`) empties the channel and leaves the holder
    right
    obtain ⟨rfl, -⟩ := held_send_unblocks h hl hb
    obtain ⟨r, s₁, h₁⟩ := recv_enabled h hb
    refine ⟨r, s₁, exists_and_left.2 ⟨h₁, ?_⟩⟩
    simp [step] at h₁
    obtain ⟨-, -, rfl⟩ := h₁
    simp [step, hl]

/-- `go Serve` is only ever executed on a node without a live server. -/
theorem fresh_no_live_server (h : Reach s) {g : Nat} (hl : (s.nodes n).loc = .fresh g) :
    eff (s.nodes n) = 0 := by
  rw [eff_eq_live h, hl]; rfl

/-- The strongest bound: at most two goroutines serve a node (a recycled node may briefly have its old
    goroutine, which has not yet seen the sentinel, and the new one — `example` below shows 2 is
    attained), and at most one remains. -/
theorem servers_bounded (h : Reach s) : (s.nodes n).srvs.length ≤ 2 ∧ eff (s.nodes n) ≤ 1 := by
  have h1 := srvs_count (n := n) h
  have h2 := eff_eq_live (n := n) h
  have h3 : pend (s.nodes n) ≤ 1 := by simp only [pend]; split <;> omega
  have h4 := live_le_one (s.nodes n).loc
  omega

theorem two_servers_pending (h : Reach s) (h2 : (s.nodes n).srvs.length = 2) :
    (s.nodes n).buf = some .stop := by
  have h1 := srvs_count (n := n) h
  have h4 := live_le_one (s.nodes n).loc
  simp only [pend] at h1
  split at h1
  · assumption
  · omega

/-- A node at a place that needs no server (`unborn`, `cached`, `fresh`, `stopping`) holds the sentinel with its
    single consumer, or nothing at all. -/
theorem serverless_shape (h : Reach s) (hl : live (s.nodes n).loc = 0) :
    ((s.nodes n).buf = some .stop ∧ (s.nodes n).srvs.length = 1) ∨
    ((s.nodes n).buf = none ∧ (s.nodes n).srvs = []) := by
  have h1 := srvs_count (n := n) h
  cases hb : (s.nodes n).buf with
  | none => right; simpa [pend, hb, hl] using h1
  | some m =>
    cases m with
    | stop => left; simpa [pend, hb, hl] using h1
    | job j => simp [job_in_buffer_inflight h hb, live] at hl

/-- Locations are exclusive by construction (`loc` is a function of the node); what a stopper leaves
    behind: no live server, and either the sentinel with its single consumer or nothing at all. -/
theorem unique_holder (h : Reach s) {g : Nat} (hl : (s.nodes n).loc = .stopping g) :
    eff (s.nodes n) = 0 ∧
    (((s.nodes n).buf = some .stop ∧ (s.nodes n).srvs.length = 1) ∨
     ((s.nodes n).buf = none ∧ (s.nodes n).srvs = [])) :=
  ⟨by rw [eff_eq_live h, hl]; rfl, serverless_shape h (by rw [hl]; rfl)⟩

/-- what `Cache.Get` can return -/
theorem cached_shape (h : Reach s) (hl : (s.nodes n).loc = .cached) :
    ((s.nodes n).buf = some .stop ∧ (s.nodes n).srvs.length = 1) ∨
    ((s.nodes n).buf = none ∧ (s.nodes n).srvs = []) :=
  serverless_shape h (by rw [hl]; rfl)

theorem send_only_by_holder {g j : Nat} {s' : State} (hs : step s (.sendJob g n j) = .ok s') :
    (s.nodes n).loc = .held g ∧ (s.nodes n).buf = none := by
  simp [step] at hs
  exact ⟨hs.1, hs.2.1⟩

theorem reach_run {s s' : State} (h : Reach s) {es : List Ev} (hr : run s es = .ok s') : Reach s' :=
  reach_of_run step run (fun _ => rfl) (fun s e _ => by cases h : step s e <;> simp only [run, h]) Reach.step h hr

def runD (es : List Ev) : State := match run init es with | .ok s => s | .error _ => init

def accepted (es : List Ev) : Bool := match run init es with | .ok _ => true | .error _ => false

theorem reach_runD (es : List Ev) : Reach (runD es) := by
  unfold runD
  split
  · rename_i s hs; exact reach_run .init hs
  · exact .init

/-- two nodes, both created (`Cache.Get`; `go Serve`) and pushed; idle list [1, 0] -/
def t0 : List Ev := [.get 0 1, .spawn 0 1 11, .push 0 1, .get 0 0, .spawn 0 0 10, .push 0 0]
/-- a dispatcher (goroutine 5) pops node 0 and sends job 7 -/
def t1 : List Ev := t0 ++ [.pop 5 (some 0), .sendJob 5 0 7]
/-- its server 10 receives the job and pushes the node back -/
def t2 : List Ev := t1 ++ [.recv 10 0 (.job 7), .push 10 0]
/-- a reaper (goroutine 6) removes node 0 (a second Remove returns false) and stops it -/
def t3 : List Ev := t2 ++ [.remove 6 0 true, .remove 6 0 false, .sendStop 6 0]
/-- ... and caches it; goroutine 10 has not yet consumed the sentinel -/
def t4 : List Ev := t3 ++ [.put 6 0]
/-- node 0 is recycled before its old goroutine consumed the sentinel: two servers -/
def t5 : List Ev := t4 ++ [.get 5 0, .spawn 5 0 12]
/-- the old goroutine leaves; the dispatcher's send is unblocked -/
def t6 : List Ev := t5 ++ [.recv 10 0 .stop, .sendJob 5 0 8]
/-- a runner that stops itself: 12 receives the job, stops and caches its own node, then receives
    its own sentinel and leaves -/
def t7 : List Ev := t6 ++ [.recv 12 0 (.job 8), .sendStop 12 0, .put 12 0, .recv 12 0 .stop]

example : accepted t7 = true := by decide
-- idle_iff / idle_nodup / idle_ready: both nodes idle with one server each
example : (runD t0).idle = [1, 0] ∧ (runD t0).nodes 0 = { loc := .idle, buf := none, srvs := [10] } := by decide
-- inflight_has_server / job_in_buffer_inflight / recv_enabled
example : (runD t1).idle = [1] ∧ (runD t1).nodes 0 = { loc := .inflight, buf := some (.job 7), srvs := [10] } := by decide
example : (runD t2).idle = [1, 0] ∧ (runD t2).nodes 0 = { loc := .idle, buf := none, srvs := [10] } := by decide
-- unique_holder (first alternative); Remove returning false changes nothing
example : (runD t3).idle = [1] ∧ (runD t3).nodes 0 = { loc := .stopping 6, buf := some .stop, srvs := [10] } := by decide
-- cached_shape (first alternative): what Cache.Get may return
example : (runD t4).nodes 0 = { loc := .cached, buf := some .stop, srvs := [10] } := by decide
-- servers_bounded is tight; held_send_unblocks / held_blocked_two_servers / two_servers_pending
example : (runD t5).nodes 0 = { loc := .held 5, buf := some .stop, srvs := [12, 10] } := by decide
example : accepted (t5 ++ [.sendJob 5 0 8]) = false := by decide          -- the send blocks ...
example : (runD t6).nodes 0 = { loc := .inflight, buf := some (.job 8), srvs := [12] } := by decide   -- ... until the sentinel is consumed
-- the new goroutine may just as well be the one that consumes the sentinel
example : (runD (t5 ++ [.recv 12 0 .stop])).nodes 0 = { loc := .held 5, buf := none, srvs := [10] } := by decide
-- a recycled node may even be pushed with the sentinel still pending (idle, two servers, eff = 1)
example : (runD (t5 ++ [.push 5 0])).nodes 0 = { loc := .idle, buf := some .stop, srvs := [12, 10] } := by decide
-- unique_holder (second alternative), then cached with nothing left
example : (runD t7).nodes 0 = { loc := .cached, buf := none, srvs := [] } ∧ (runD t7).idle = [1] := by decide
-- node 1 was never touched again; node 2 was never born
example : (runD t7).nodes 1 = { loc := .idle, buf := none, srvs := [11] } ∧ (runD t7).nodes 2 = {} := by decide
-- PopBack nil only on an empty list; PopBack pops the back
example : accepted [.pop 5 none] = true ∧ accepted (t0 ++ [.pop 5 none]) = false ∧
    accepted (t0 ++ [.pop 5 (some 1)]) = false := by decide
-- only the holder sends; nobody sends to an idle node
example : accepted (t0 ++ [.sendJob 5 0 7]) = false ∧ accepted (t1 ++ [.sendStop 5 0]) = false := by decide
-- skipping `go Serve` or starting it twice (the runs of the file header) is rejected
example : accepted [.get 0 0, .spawn 0 0 1, .spawn 0 0 2] = false ∧
    accepted [.get 0 0, .push 0 0] = false ∧
    accepted [.get 0 0, .sendJob 0 0 7] = false ∧
    accepted [.get 0 0, .sendStop 0 0] = false ∧
    accepted [.get 0 0, .spawn 0 0 1, .sendStop 0 0, .put 0 0, .get 1 0, .sendJob 1 0 7] = false := by decide

-- the hypotheses of the main theorems are satisfiable on reachable states
example : ∃ s, Reach s ∧ (s.nodes 0).loc = .inflight := ⟨runD t1, reach_runD _, by decide⟩
example : ∃ s, Reach s ∧ (s.nodes 0).loc = .idle ∧ 0 ∈ s.idle := ⟨runD t2, reach_runD _, by decide⟩
example : ∃ s, Reach s ∧ (s.nodes 0).loc = .held 5 ∧ (s.nodes 0).buf = some .stop :=
  ⟨runD t5, reach_runD _, by decide⟩
example : ∃ s, Reach s ∧ (s.nodes 0).loc = .stopping 6 := ⟨runD t3, reach_runD _, by decide⟩
example : ∃ s, Reach s ∧ (s.nodes 0).srvs.length = 2 := ⟨runD t5, reach_runD _, by decide⟩
example : ∃ s, Reach s ∧ (s.nodes 0).loc = .fresh 5 ∧ (s.nodes 0).buf = some .stop :=
  ⟨runD (t4 ++ [.get 5 0]), reach_runD _, by decide⟩

end Pool
end VarmqVerif

#print axioms VarmqVerif.Pool.idle_iff
#print axioms VarmqVerif.Pool.idle_nodup
#print axioms VarmqVerif.Pool.srvs_count
#print axioms VarmqVerif.Pool.inflight_has_server
#print axioms VarmqVerif.Pool.job_in_buffer_inflight
#print axioms VarmqVerif.Pool.recv_enabled
#print axioms VarmqVerif.Pool.idle_ready
#print axioms VarmqVerif.Pool.held_send_unblocks
#print axioms VarmqVerif.Pool.held_send_eventually
#print axioms VarmqVerif.Pool.servers_bounded
#print axioms VarmqVerif.Pool.two_servers_pending
#print axioms VarmqVerif.Pool.unique_holder
#print axioms VarmqVerif.Pool.cached_shape
