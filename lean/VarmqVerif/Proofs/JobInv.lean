/-
  The inductive invariant of the model `Job` (VarmqVerif/Model/Job.lean) and its preservation by every
  `step`. The theorems read off it are in Proofs/Job.lean.

  The invariant is in layers, each preserved on its own given earlier ones (D needs J; B needs J, D; W needs D, B;
  C needs D):

    InvJ  per job record (`JobOK`): status word, claim/enter/exit/close counters; the ghost history of
          the status word; the `running` and `ld` locals
    InvD  who owes a Done (`owesDone`), Done counters, the own wait group, `cnt` locals
    InvB  per batch record (`BatchOK`); how jobs and batches point at each other
    InvW  batch wait group = count + number of goroutines that owe a batch wg.Done
    InvC  response channels: owner, who owes the close, closed

  Every `*.step` has the same shape. `fun_cases Job.step s e` gives one case per branch of `step`, its guards as
  hypotheses; `rintro ⟨⟩` closes the `.error` branches (the gaps in the numbering below) and puts the successor
  state in the place of `s'` in the others. A layer reads few fields (its `*View`s), so most events write none of them:
  those are dismissed, last, by the layer's `frame` lemma. The other cases are grouped by what is written. A group
  proves only the conjuncts its write can affect (`{ I with … }` keeps those that read nothing written), each from
  exactly the conjuncts of `s` it rests on; `grind` over `upd` does the split "the record that was written, or
  another one", the list of `have`s is the argument. "Writes only" in the comments is relative to what the layer
  reads.

  The branches of `step` that set `crashed` (wgDone and wgDoneB at a wait group counter 0, closeChan of a closed
  channel, sendChan on a closed one) are refuted once, from the whole invariant (`Inv.step_ok`, Proofs/Job.lean). The
  layers they would break take `s'.crashed = false` as a hypothesis (wgDoneB in W, wgDone and closeChan in C); the
  others preserve them like any other write.

  The cases of `fun_cases Job.step s e`, by number (an edit of `Job.step` renumbers them; `all_goals trace_state`
  after the `rintro` shows the list):
     3, 4 newJob (with a channel, without)   7, 8 newBatch (likewise)   12 newItem   15 stQueued   19 stParsed
     24 ldClaim   30, 31 casClaim (won, lost)   34 enter   37 exit   41 stFinished   44 ldClose
     49, 50 casClose (won, lost)   53 ack   56, 57 wgDone (counter 0, not)   60, 61 ldCount (of 0, not)
     67, 68 casCount (won, lost)   71, 72 wgDoneB (counter 0, not)   74, 75 closeChan (closed, not)
     78, 79 sendChan (closed, not)   83 wgWait   86 wgWaitB   88 ldStatus   90 ldCountAny
-/
import VarmqVerif.Model.Job

namespace VarmqVerif
namespace Job

/-- Turn `h : step s e = .ok s'` (for a constructor `e`) into one goal per successful branch of
`step`, with the guards as hypotheses and `s'` replaced by the explicit successor state.
(No proof below uses it: they go by `fun_cases`.) -/
macro "step_cases" h:ident : tactic => `(tactic| (
  simp only [step] at $h:ident <;> (repeat' split at $h:ident) <;> (try (simp at $h:ident)) <;>
  (try subst $h:ident) <;> simp at *))

theorem upd_congr {β γ} (p : β → γ) {f : Nat → β} {g : Nat} {v : β} (h : p v = p (f g)) (x : Nat) :
    p (upd f g v x) = p (f x) := by
  unfold upd; split <;> simp [*]

structure JobOK (js : JobSt) : Prop where
  nex : js.exist = false → js.claims = 0 ∧ js.closes = 0 ∧ js.st = created
  st_le : js.st ≤ closed
  head : js.hist.head? = some js.st
  claims_le : js.claims ≤ 1
  ent_le : js.entered ≤ js.claims
  idle : js.st ≠ processing → js.entered = js.claims ∧ js.exited = js.entered
  low : js.st ≤ queued → js.claims = 0
  closes_le : js.closes ≤ 1
  closes0 : js.st ≠ closed → js.closes = 0
  canc : js.cancelled = true → js.st = closed ∧ js.claims = 0

structure InvJ (s : State) : Prop where
  job : ∀ j, JobOK (s.jobs j)
  /-- A job parsed from an envelope that says "Finished" is excepted: claim() takes it from `finished` back to
  `processing` (`status_monotone_parsedFinished_real`, Proofs/Job.lean). For the others the third conjunct keeps a claim
  CAS, which needs `claims = 0`, from starting at `finished`. -/
  mono : ∀ j, (s.jobs j).parsedFinished = false →
    (∀ v ∈ (s.jobs j).hist, v ≤ (s.jobs j).st) ∧ List.Pairwise (· ≥ ·) (s.jobs j).hist ∧
    ((s.jobs j).st = finished → (s.jobs j).claims = 1)
  run : ∀ g j, (s.loc g).running = some j → (s.jobs j).st = processing ∧ (s.jobs j).entered = 1
  run_uniq : ∀ g g' j, (s.loc g).running = some j → (s.loc g').running = some j → g = g'
  ld_exist : ∀ g j v, (s.loc g).ld = some (j, v) → (s.jobs j).exist = true

structure InvD (s : State) : Prop where
  owes : ∀ g j, (s.loc g).owesDone = some j →
    (s.jobs j).st = closed ∧ (s.jobs j).closes = 1 ∧ (s.jobs j).dones = 0
  owes_uniq : ∀ g g' j, (s.loc g).owesDone = some j → (s.loc g').owesDone = some j → g = g'
  dones_le : ∀ j, (s.jobs j).dones ≤ (s.jobs j).closes
  wg_single : ∀ j, (s.jobs j).exist = true → (s.jobs j).batch = none → (s.jobs j).wg + (s.jobs j).dones = 1
  cnt : ∀ g b c, (s.loc g).cnt = some (b, c) →
    c ≠ 0 ∧ ∃ j, (s.loc g).owesDone = some j ∧ (s.jobs j).batch = some b

structure BatchOK (bs : BatchSt) : Prop where
  items_nodup : bs.items.Nodup
  items_len : bs.items.length ≤ bs.size
  done_nodup : bs.doneItems.Nodup
  count_exact : bs.count + bs.doneItems.length = bs.size

structure InvB (s : State) : Prop where
  batch : ∀ b, BatchOK (s.batches b)
  jb : ∀ j b, (s.jobs j).batch = some b →
    (s.jobs j).exist = true ∧ (s.batches b).exist = true ∧ (s.jobs j).chan = (s.batches b).chan ∧
    j ∈ (s.batches b).items
  items_ex : ∀ b j, j ∈ (s.batches b).items → (s.jobs j).exist = true ∧ (s.jobs j).batch = some b
  done_mem : ∀ b j, j ∈ (s.batches b).doneItems →
    j ∈ (s.batches b).items ∧ (s.jobs j).st = closed ∧ (s.jobs j).dones = 1

def WgList (s : State) (b : Nat) (L : List Nat) : Prop :=
  L.Nodup ∧ (∀ g, g ∈ L ↔ (s.loc g).owesWg = some b) ∧
  (s.batches b).wg = (s.batches b).count + L.length

structure InvW (s : State) : Prop where
  wg_exist : ∀ g b, (s.loc g).owesWg = some b → (s.batches b).exist = true
  wg_list : ∀ b, ∃ L, WgList s b L

structure InvC (s : State) : Prop where
  jchan_exist : ∀ j c, (s.jobs j).chan = some c → (s.chans c).exist = true
  bchan_exist : ∀ b c, (s.batches b).chan = some c → (s.chans c).exist = true
  owed_exist : ∀ g c, (s.loc g).owesClose = some c → (s.chans c).exist = true
  single_uniq : ∀ j j' c, (s.jobs j).batch = none → (s.jobs j').batch = none →
    (s.jobs j).chan = some c → (s.jobs j').chan = some c → j = j'
  batch_uniq : ∀ b b' c, (s.batches b).chan = some c → (s.batches b').chan = some c → b = b'
  single_not_batch : ∀ j b c, (s.jobs j).batch = none → (s.jobs j).chan = some c → (s.batches b).chan ≠ some c
  sj_closed : ∀ j c, (s.jobs j).batch = none → (s.jobs j).chan = some c → (s.chans c).closed = true →
    (s.jobs j).dones = 1
  sj_owes : ∀ j c g, (s.jobs j).batch = none → (s.jobs j).chan = some c → (s.loc g).owesClose = some c →
    (s.jobs j).dones = 1
  sb_closed : ∀ b c, (s.batches b).chan = some c → (s.chans c).closed = true → (s.batches b).count = 0
  sb_owes : ∀ b c g, (s.batches b).chan = some c → (s.loc g).owesClose = some c → (s.batches b).count = 0
  close_uniq : ∀ g g' c, (s.loc g).owesClose = some c → (s.loc g').owesClose = some c → g = g'
  closed_free : ∀ g c, (s.chans c).closed = true → (s.loc g).owesClose ≠ some c

theorem InvJ.init : InvJ init := by
  refine ⟨fun _ => ?_, ?_, ?_, ?_, ?_⟩ <;> (try constructor) <;> simp [Job.init]
theorem InvD.init : InvD init := by constructor <;> simp [Job.init]
theorem InvB.init : InvB init := by
  refine ⟨fun _ => ?_, ?_, ?_, ?_⟩ <;> (try constructor) <;> simp [Job.init]
theorem InvW.init : InvW init :=
  ⟨by simp [Job.init], fun _ => ⟨[], by simp [WgList, Job.init]⟩⟩
theorem InvC.init : InvC init := by constructor <;> simp [Job.init]

def InvJ.jobView (js : JobSt) :=
  (js.exist, js.st, js.hist, js.claims, js.entered, js.exited, js.closes, js.cancelled, js.parsedFinished)
def InvJ.locView (l : Local) := (l.running, l.ld)

theorem InvJ.frame {s s' : State} (I : InvJ s) (hj : ∀ j, InvJ.jobView (s'.jobs j) = InvJ.jobView (s.jobs j))
    (hl : ∀ g, InvJ.locView (s'.loc g) = InvJ.locView (s.loc g)) : InvJ s' := by
  simp only [InvJ.jobView, InvJ.locView, Prod.mk.injEq] at hj hl
  obtain ⟨a1, a2, a3, a4, a5⟩ := I
  refine ⟨fun j => ?_, ?_, ?_, ?_, ?_⟩
  · obtain ⟨b1, b2, b3, b4, b5, b6, b7, b8, b9, b10⟩ := a1 j
    constructor <;> simp only [hj] <;> assumption
  all_goals simp only [hj, hl]; assumption

theorem InvJ.step {s s' : State} {e : Ev} (I : InvJ s) (h : Job.step s e = .ok s') : InvJ s' := by
  revert h
  fun_cases Job.step s e <;> rintro ⟨⟩
  -- newBatch with a channel: either branch of the `if` in what it writes to `loc g` keeps `running` and `ld`
  case case7 => exact I.frame (fun _ => rfl) (upd_congr _ (by grind [InvJ.locView]))
  -- failed casClaim, ldClose, failed casClose write `ld` of `g` only: who runs a job now ran it before; the job loaded
  -- by ldClose exists
  case case31 | case44 | case50 =>
    exact { I with
      run := fun g' j h => I.run g' j (by grind [upd])
      run_uniq := fun g' g'' j h h' => I.run_uniq g' g'' j (by grind [upd]) (by grind [upd])
      ld_exist := by have := I.ld_exist; grind [upd] }
  -- newJob, newItem, stQueued, stParsed, exit write one job record only. The first four find the status `created`
  -- (nex, the guard, `head`), so nobody runs the job and its history is `[created]`; exit: the guard
  -- `exited < entered` puts the job in `processing` (idle), where `idle` asks nothing
  case case3 | case4 | case12 | case15 | case19 | case37 =>
    exact { I with
      job := by have := I.job; grind [upd, setSt, JobOK]
      mono := by have := I.mono; grind [upd, setSt, List.pairwise_cons]
      run := by have := I.run; have := fun j => (I.job j).nex; have := fun j => (I.job j).head; grind [upd]
      ld_exist := by have := I.ld_exist; grind [upd, setSt] }
  -- ldClaim, successful casClaim, enter, stFinished, successful casClose write a job record and `ld` or `running`
  -- of `g`. A job is entered at `claims = 1`, `entered = 0`, so in `processing` (idle) and by nobody else. Only `g`
  -- runs the job it finishes (run_uniq); it was claimed (ent_le), so `finished` comes with `claims = 1`. A claim CAS
  -- succeeds from below `finished` (mono, st_le); a close CAS succeeds outside `processing`, so nobody runs that job.
  -- The CAS is on the job that `g` loaded, which exists (ld_exist), as `nex` requires once `claims` or `closes` is 1
  case case24 | case30 | case34 | case41 | case49 =>
    exact {
      job := by have := I.job; have := I.run; have := I.ld_exist; grind [upd, setSt, JobOK]
      mono := by
        have := I.mono; have := I.run; have := fun j => (I.job j).st_le
        have := fun j => (I.job j).ent_le; have := fun j => (I.job j).claims_le
        grind [upd, setSt, List.pairwise_cons]
      run := by
        have := I.run; have := I.run_uniq; have := fun j => (I.job j).idle; have := fun j => (I.job j).claims_le
        grind [upd, setSt]
      run_uniq := by have := I.run_uniq; have := I.run; have := fun j => (I.job j).claims_le; grind [upd]
      ld_exist := by have := I.ld_exist; grind [upd, setSt] }
  all_goals refine I.frame ?_ ?_ <;> first | exact fun _ => rfl | exact upd_congr _ rfl

def InvD.jobView (js : JobSt) := (js.exist, js.batch, js.closes, js.dones, js.wg)
def InvD.locView (l : Local) := (l.owesDone, l.cnt)

/-- The form in which `InvD.frame` and `InvB.frame` take "the status word is not written". -/
theorem keepSt {f f' : Nat → JobSt} (h : ∀ j, (f' j).st = (f j).st) (j : Nat) (_ : (f j).st = closed) :
    (f' j).st = (f j).st := h j

/-- `InvD` reads the status word in `owes` alone, and only to say `closed`: a job that is not closed may change it. -/
theorem InvD.frame {s s' : State} (I : InvD s) (hj : ∀ j, InvD.jobView (s'.jobs j) = InvD.jobView (s.jobs j))
    (hs : ∀ j, (s.jobs j).st = closed → (s'.jobs j).st = (s.jobs j).st)
    (hl : ∀ g, InvD.locView (s'.loc g) = InvD.locView (s.loc g)) : InvD s' := by
  simp only [InvD.jobView, InvD.locView, Prod.mk.injEq] at hj hl
  obtain ⟨a1, a2, a3, a4, a5⟩ := I
  constructor <;> simp only [hj, hl] <;> first | assumption | skip
  exact fun g j h => have := a1 g j h; ⟨(hs j this.1).trans this.1, this.2⟩

theorem InvD.step {s s' : State} {e : Ev} (J : InvJ s) (I : InvD s) (h : Job.step s e = .ok s') : InvD s' := by
  revert h
  fun_cases Job.step s e <;> rintro ⟨⟩
  -- newBatch with a channel: either branch of the `if` in what it writes to `loc g` keeps `owesDone` and `cnt`
  case case7 => exact I.frame (fun _ => rfl) (keepSt fun _ => rfl) (upd_congr _ (by grind [InvD.locView]))
  -- stQueued, stParsed, successful casClaim, stFinished: the status word they store to is not `closed` (stParsed: by
  -- `head`)
  case case15 | case19 | case30 | case41 =>
    refine I.frame (upd_congr _ rfl) (by have := fun j => (J.job j).head; grind [upd]) ?_ <;>
      first | exact fun _ => rfl | exact upd_congr _ rfl
  -- newJob, newItem: `j` did not exist, so its status was `created` (nex) and nobody owes its Done; the new record
  -- has `closes = dones = 0`, and `wg = 1` unless it is an item
  case case3 | case4 | case12 =>
    have := fun j => (J.job j).nex
    exact { I with
      owes := by have := I.owes; grind [upd]
      dones_le := by have := I.dones_le; grind [upd]
      wg_single := by have := I.wg_single; grind [upd]
      cnt := by have := I.cnt; have := I.owes; grind [upd] }
  -- successful casClose: `j` was not closed, so `closes = 0` (closes0), `dones = 0` (dones_le) and nobody owed its
  -- Done; `g` owed none, so it has no `cnt`
  case case49 =>
    exact {
      owes := by have := I.owes; have := I.dones_le; have := fun j => (J.job j).closes0; grind [upd, setSt]
      owes_uniq := by have := I.owes; have := I.owes_uniq; grind [upd]
      dones_le := by have := I.dones_le; grind [upd, setSt]
      wg_single := by have := I.wg_single; grind [upd, setSt]
      cnt := by have := I.cnt; grind [upd, setSt] }
  -- wgDone at `wg = 0`, ldCount, failed casCount write `loc g` only. `owesDone` is kept or cleared: who owes a Done
  -- now owed it before. `cnt` is set (ldCount) while `g` owes the Done of an item of `b`; where `owesDone` is
  -- cleared, `cnt` is cleared too (ldCount of 0) or was not set, the job being no item (wgDone)
  case case56 | case60 | case61 | case68 =>
    exact { I with
      owes := fun g' j h => I.owes g' j (by grind [upd])
      owes_uniq := fun g' g'' j h h' => I.owes_uniq g' g'' j (by grind [upd]) (by grind [upd])
      cnt := by have := I.cnt; grind [upd] }
  -- wgDone, successful casCount: `g` alone owed the Done of `j` (owes_uniq), and `dones` goes from 0 to 1 = `closes`.
  -- wgDone moves 1 from `wg ≠ 0` to `dones`; casCount is on an item (cnt), of which `wg_single` does not speak
  case case57 | case67 =>
    exact {
      owes := by have := I.owes; have := I.owes_uniq; grind [upd]
      owes_uniq := by have := I.owes_uniq; grind [upd]
      dones_le := by have := I.dones_le; have := I.owes; grind [upd]
      wg_single := by have := I.wg_single; have := I.cnt; grind [upd]
      cnt := by have := I.cnt; grind [upd] }
  all_goals refine I.frame ?_ (keepSt ?_) ?_ <;> first | exact fun _ => rfl | exact upd_congr _ rfl

/-- Why wgDone never finds the counter at 0: the job is closed (owes), hence exists (nex), with `dones = 0`. -/
theorem InvD.wg_of_owes {s : State} (J : InvJ s) (D : InvD s) {g j : Nat} (ho : (s.loc g).owesDone = some j)
    (hb : (s.jobs j).batch = none) : (s.jobs j).wg = 1 := by
  have ⟨h1, _, h2⟩ := D.owes g j ho
  have := D.wg_single j (by have := (J.job j).nex; grind) hb
  omega

def InvB.jobView (js : JobSt) := (js.exist, js.batch, js.chan, js.dones)
def InvB.batchView (bs : BatchSt) := (bs.exist, bs.size, bs.count, bs.chan, bs.items, bs.doneItems)

/-- As in `InvD.frame`: the status word is read in `done_mem` alone, and only to say `closed`. -/
theorem InvB.frame {s s' : State} (I : InvB s) (hj : ∀ j, InvB.jobView (s'.jobs j) = InvB.jobView (s.jobs j))
    (hs : ∀ j, (s.jobs j).st = closed → (s'.jobs j).st = (s.jobs j).st)
    (hb : ∀ b, InvB.batchView (s'.batches b) = InvB.batchView (s.batches b)) : InvB s' := by
  simp only [InvB.jobView, InvB.batchView, Prod.mk.injEq] at hj hb
  obtain ⟨a1, a2, a3, a4⟩ := I
  refine ⟨fun b => ?_, ?_, ?_, ?_⟩
  · obtain ⟨b1, b2, b3, b4⟩ := a1 b
    constructor <;> simp only [hb] <;> assumption
  all_goals simp only [hj, hb]; first | assumption | skip
  exact fun b j h => have := a4 b j h; ⟨this.1, (hs j this.2.1).trans this.2.1, this.2.2⟩

theorem InvB.step {s s' : State} {e : Ev} (J : InvJ s) (D : InvD s) (I : InvB s) (h : Job.step s e = .ok s') :
    InvB s' := by
  revert h
  fun_cases Job.step s e <;> rintro ⟨⟩
  -- the stores of the status word: to one that is not `closed` (stParsed: by `head`)
  case case15 | case19 | case30 | case41 | case49 =>
    exact I.frame (upd_congr _ rfl) (by have := fun j => (J.job j).head; grind [upd]) fun _ => rfl
  -- newJob, wgDone write the record of a job that is in no `items` (items_ex: it did not exist, resp. has no
  -- batch) and give it no batch
  case case3 | case4 | case57 =>
    exact { I with
      jb := by have := I.jb; grind [upd]
      items_ex := by have := I.items_ex; grind [upd]
      done_mem := by have := I.done_mem; have := I.items_ex; grind [upd] }
  -- newBatch: `b` did not exist, so no job points at it (jb); it starts with no items and `count = size`
  case case7 | case8 =>
    exact {
      batch := by have := I.batch; grind [upd, BatchOK]
      jb := by have := I.jb; grind [upd]
      items_ex := by have := I.items_ex; grind [upd]
      done_mem := by have := I.done_mem; grind [upd] }
  -- newItem: `j` did not exist, so it is in no `items` (items_ex) and can be put in front of those of `b`
  case case12 =>
    exact {
      batch := by have := I.batch; have := I.items_ex; grind [upd, BatchOK]
      jb := by have := I.jb; grind [upd]
      items_ex := by have := I.items_ex; grind [upd]
      done_mem := by have := I.done_mem; have := I.items_ex; grind [upd] }
  -- successful casCount: `g` owes the Done of `j`, so `j` is closed with `dones = 0` (owes) and not yet among the
  -- `doneItems` (done_mem); it is an item of `b` (cnt, jb); `count` was not 0
  case case67 =>
    exact {
      batch := by have := I.batch; have := I.done_mem; have := D.owes; grind [upd, BatchOK]
      jb := by have := I.jb; grind [upd]
      items_ex := by have := I.items_ex; grind [upd]
      done_mem := by have := I.done_mem; have := I.jb; have := D.owes; have := D.cnt; grind [upd] }
  all_goals refine I.frame ?_ (keepSt ?_) ?_ <;> first | exact fun _ => rfl | exact upd_congr _ rfl

theorem WgList.congr {s s' : State} {b : Nat} {L : List Nat} (h : WgList s b L)
    (h1 : ∀ g, (s'.loc g).owesWg = some b ↔ (s.loc g).owesWg = some b)
    (h2 : (s'.batches b).wg = (s.batches b).wg) (h3 : (s'.batches b).count = (s.batches b).count) :
    WgList s' b L :=
  ⟨h.1, fun g => (h.2.1 g).trans (h1 g).symm, by rw [h2, h3]; exact h.2.2⟩

def InvW.batchView (bs : BatchSt) := (bs.wg, bs.count, bs.exist)

theorem InvW.frame {s s' : State} (I : InvW s) (hl : ∀ g, (s'.loc g).owesWg = (s.loc g).owesWg)
    (hb : ∀ b, InvW.batchView (s'.batches b) = InvW.batchView (s.batches b)) : InvW s' := by
  simp only [InvW.batchView, Prod.mk.injEq] at hb
  exact ⟨fun g b h => (hb b).2.2 ▸ I.wg_exist g b (hl g ▸ h), fun b => (I.wg_list b).imp fun _ hL =>
    hL.congr (fun g => by rw [hl]) (hb b).1 (hb b).2.1⟩

/-- Why wgDoneB never finds the counter at 0. -/
theorem InvW.wg_pos {s : State} (I : InvW s) {g b : Nat} (ho : (s.loc g).owesWg = some b) : 0 < (s.batches b).wg := by
  obtain ⟨L, _, hm, hw⟩ := I.wg_list b
  have := List.length_pos_of_mem ((hm g).2 ho)
  omega

theorem InvW.step {s s' : State} {e : Ev} (D : InvD s) (B : InvB s) (I : InvW s) (h : Job.step s e = .ok s')
    (hok : s'.crashed = false) : InvW s' := by
  revert h hok
  fun_cases Job.step s e <;> rintro ⟨⟩ hok
  -- wgDoneB at counter 0 sets `crashed`
  case case71 => cases hok
  all_goals clear hok
  -- newBatch: nobody owes a wg.Done for a batch that did not exist
  case case7 g b _ _ _ _ _ | case8 g b _ _ =>
    refine ⟨by have := I.wg_exist; grind [upd], fun b' => ?_⟩
    obtain ⟨L, hL⟩ := I.wg_list b'
    by_cases hb' : b' = b
    · subst hb'
      exact ⟨[], List.nodup_nil, fun g' => by have := I.wg_exist g' b'; grind [upd], by simp [upd]⟩
    · exact ⟨L, hL.congr (by grind [upd]) (by grind [upd]) (by grind [upd])⟩
  -- successful casCount: `g` joins the list of `b`, `count` drops by one; `b` exists because `g` owes the Done of one
  -- of its items (D.cnt), and a batch that a job points at exists (B.jb)
  case case67 g b _ _ _ _ _ _ _ _ _ _ _ =>
    refine ⟨by have := I.wg_exist; have := D.cnt; have := B.jb; grind [upd], fun b' => ?_⟩
    obtain ⟨L, hn, hm, hw⟩ := I.wg_list b'
    by_cases hb : b' = b
    · subst hb
      exact ⟨g :: L, by grind, fun g' => by grind [upd], by grind [upd]⟩
    · exact ⟨L, hn, fun g' => by grind [upd], by grind [upd]⟩
  -- wgDoneB: `g` leaves the list of `b`
  case case72 g b _ ho _ =>
    refine ⟨by have := I.wg_exist; grind [upd], fun b' => ?_⟩
    obtain ⟨L, hn, hm, hw⟩ := I.wg_list b'
    by_cases hb : b' = b
    · subst hb
      refine ⟨L.erase g, hn.erase g, fun g' => ?_, ?_⟩
      · rw [hn.mem_erase_iff]; grind [upd]
      · have := List.length_erase_of_mem ((hm g).2 (by simpa using ho))
        grind [upd]
    · exact ⟨L, hn, fun g' => by grind [upd], by grind [upd]⟩
  all_goals refine I.frame ?_ ?_ <;> first | exact fun _ => rfl | exact upd_congr _ rfl

def InvC.jobView (js : JobSt) := (js.batch, js.chan, js.dones)
def InvC.batchView (bs : BatchSt) := (bs.chan, bs.count)
def InvC.chanView (cs : ChanSt) := (cs.exist, cs.closed)

theorem InvC.frame {s s' : State} (I : InvC s) (hj : ∀ j, InvC.jobView (s'.jobs j) = InvC.jobView (s.jobs j))
    (hb : ∀ b, InvC.batchView (s'.batches b) = InvC.batchView (s.batches b))
    (hc : ∀ c, InvC.chanView (s'.chans c) = InvC.chanView (s.chans c))
    (hl : ∀ g, (s'.loc g).owesClose = (s.loc g).owesClose) : InvC s' := by
  simp only [InvC.jobView, InvC.batchView, InvC.chanView, Prod.mk.injEq] at hj hb hc
  obtain ⟨a1, a2, a3, a4, a5, a6, a7, a8, a9, a10, a11, a12⟩ := I
  constructor <;> simp only [hj, hb, hc, hl] <;> assumption

theorem InvC.step {s s' : State} {e : Ev} (D : InvD s) (I : InvC s) (h : Job.step s e = .ok s')
    (hok : s'.crashed = false) : InvC s' := by
  revert h hok
  fun_cases Job.step s e <;> rintro ⟨⟩ hok
  -- wgDone at counter 0 and closeChan of a closed channel set `crashed`
  case case56 | case74 => cases hok
  all_goals clear hok
  -- newJob, newBatch, newItem: a new channel `c` did not exist, so it belongs to nobody (jchan_exist, bchan_exist),
  -- nobody owes its close (owed_exist) and its record is written with `closed = false`; only the creator of an empty
  -- batch comes to owe the close, at `count = 0`. An item gets the channel of its batch (bchan_exist), and the
  -- conjuncts on single jobs do not speak of it
  case case3 | case4 | case7 | case8 | case12 =>
    exact {
      jchan_exist := by have := I.jchan_exist; have := I.bchan_exist; grind [upd]
      bchan_exist := by have := I.bchan_exist; grind [upd]
      owed_exist := by have := I.owed_exist; grind [upd]
      single_uniq := by have := I.single_uniq; have := I.jchan_exist; grind [upd]
      batch_uniq := by have := I.batch_uniq; have := I.bchan_exist; grind [upd]
      single_not_batch := by have := I.single_not_batch; have := I.jchan_exist; have := I.bchan_exist; grind [upd]
      sj_closed := by have := I.sj_closed; grind [upd]
      sj_owes := by have := I.sj_owes; have := I.owed_exist; have := I.jchan_exist; grind [upd]
      sb_closed := by have := I.sb_closed; grind [upd]
      sb_owes := by have := I.sb_owes; have := I.owed_exist; have := I.bchan_exist; grind [upd]
      close_uniq := by have := I.close_uniq; have := I.owed_exist; grind [upd]
      closed_free := by have := I.closed_free; grind [upd] }
  -- wgDone, successful casCount: the Done of `j` is counted (`dones` from 0, by owes, to 1; `count` from not 0) and
  -- `g` takes on the close of the channel of the single job, resp. of the batch if `count` reaches 0. Nobody owed
  -- that close and it was not closed: either would mean the count was complete (sj_owes, sj_closed; sb_owes,
  -- sb_closed). Nobody else has that channel (single_uniq, batch_uniq, single_not_batch)
  case case57 | case67 =>
    exact {
      jchan_exist := by have := I.jchan_exist; grind [upd]
      bchan_exist := by have := I.bchan_exist; grind [upd]
      owed_exist := by have := I.owed_exist; have := I.jchan_exist; have := I.bchan_exist; grind [upd]
      single_uniq := by have := I.single_uniq; grind [upd]
      batch_uniq := by have := I.batch_uniq; grind [upd]
      single_not_batch := by have := I.single_not_batch; grind [upd]
      sj_closed := by have := I.sj_closed; have := D.owes; grind [upd]
      sj_owes := by
        have := I.sj_owes; have := I.single_uniq; have := I.single_not_batch; have := D.owes
        grind [upd, Option.not_isSome_iff_eq_none]
      sb_closed := by have := I.sb_closed; grind [upd]
      sb_owes := by
        have := I.sb_owes; have := I.batch_uniq; have := I.single_not_batch
        grind [upd, Option.not_isSome_iff_eq_none]
      close_uniq := by
        have := I.close_uniq; have := I.sj_owes; have := I.sb_owes; have := D.owes
        grind [upd, Option.not_isSome_iff_eq_none]
      closed_free := by
        have := I.closed_free; have := I.sj_closed; have := I.sb_closed; have := D.owes
        grind [upd, Option.not_isSome_iff_eq_none] }
  -- closeChan: `c` exists (owed_exist); its owner is done (sj_owes, sb_owes); `g` alone owed the close (close_uniq) and
  -- owes it no more
  case case75 =>
    exact { I with
      jchan_exist := by have := I.jchan_exist; grind [upd]
      bchan_exist := by have := I.bchan_exist; grind [upd]
      owed_exist := by have := I.owed_exist; grind [upd]
      sj_closed := by have := I.sj_closed; have := I.sj_owes; grind [upd]
      sj_owes := by have := I.sj_owes; grind [upd]
      sb_closed := by have := I.sb_closed; have := I.sb_owes; grind [upd]
      sb_owes := by have := I.sb_owes; grind [upd]
      close_uniq := by have := I.close_uniq; grind [upd]
      closed_free := by have := I.closed_free; have := I.close_uniq; grind [upd] }
  -- sendChan among the rest: it writes `sends`, which `InvC` does not read
  all_goals refine I.frame ?_ ?_ ?_ ?_ <;> first | exact fun _ => rfl | exact upd_congr _ rfl

end Job
end VarmqVerif
