/-
  Theorems about the acknowledging-adapter model `Ack` (Model/Ack.lean): C11, nothing accepted is
  lost or duplicated at any crash point, and an item is acknowledged only after its worker function
  returned, at most once.

  The theorems are about every reachable state (unbounded items, any interleaving, any number of `recover`s):
  every reachable state is a crash point. All are read off the inductive invariant `Inv` (`reach_inv`).
-/
import VarmqVerif.Model.Ack
import VarmqVerif.Proofs.Guard

namespace VarmqVerif
namespace Ack

theorem perm_move {α} [DecidableEq α] {x : α} {a : List α} (b : List α) (h : x ∈ a) :
    (a.erase x ++ x :: b).Perm (a ++ b) :=
  List.perm_middle.trans ((List.perm_cons_erase h).symm.append_right b)

theorem contains_false_iff {x : Nat} {l : List Nat} : l.contains x = false ↔ x ∉ l := by
  simp

structure Inv (s : State) : Prop where
  perm : (s.pending ++ s.unacked ++ s.acked).Perm s.accepted
  acc : s.accepted = (List.range s.next).reverse
  acked_processed : s.acked ⊆ s.processed
  exited_processed : s.exited ⊆ s.processed
  exited_entered : s.exited ⊆ s.entered
  entered_held : s.entered ⊆ s.unacked ++ s.acked
  ackCalled_exited : s.ackCalled ⊆ s.exited
  entered_nodup : s.entered.Nodup

theorem inv_init : Inv init := by
  constructor <;> simp [init]

theorem step_inv {s s' : State} {e : Ev} (h : Inv s) (hs : step s e = .ok s') : Inv s' := by
  revert hs
  fun_cases step s e <;> rintro ⟨⟩
  -- a refused enq, deqFail
  case case2 | case5 => exact h
  case case1 => -- enq
    refine { h with perm := ?_, acc := by simp [List.range_succ, h.acc] }
    simpa using (List.perm_middle (l₁ := s.pending)).trans (by simpa using h.perm.cons s.next)
  case case4 x hx => -- deq
    simp at hx
    exact { h with
      perm := ((perm_move s.unacked hx).append_right s.acked).trans h.perm
      entered_held := h.entered_held.trans (by simp) }
  case case8 x hx hn => -- enter
    simp at hx hn
    exact { h with
      entered_nodup := List.nodup_cons.2 ⟨hn, h.entered_nodup⟩
      exited_entered := List.subset_cons_of_subset _ h.exited_entered
      entered_held := List.cons_subset.2 ⟨List.mem_append_left _ hx, h.entered_held⟩ }
  case case10 x hx => -- exit
    simp at hx
    exact { h with
      acked_processed := List.subset_cons_of_subset _ h.acked_processed
      exited_processed := List.cons_subset_cons _ h.exited_processed
      exited_entered := List.cons_subset.2 ⟨hx.1, h.exited_entered⟩
      ackCalled_exited := List.subset_cons_of_subset _ h.ackCalled_exited }
  case case14 x hex _ hu => -- ack, accepted by the adapter
    simp at hex hu
    refine { h with
      perm := ?_
      acked_processed := List.cons_subset.2 ⟨h.exited_processed hex, h.acked_processed⟩
      entered_held := ?_
      ackCalled_exited := List.cons_subset.2 ⟨hex, h.ackCalled_exited⟩ }
    · simpa using ((perm_move s.acked hu).append_left s.pending).trans (by simpa using h.perm)
    · intro y hy
      by_cases hyx : y = x
      · simp [hyx]
      · simpa [List.mem_erase_of_ne hyx, hyx] using h.entered_held hy
  case case15 x ok hex _ _ => -- ack, refused
    simp at hex
    exact { h with ackCalled_exited := List.cons_subset.2 ⟨hex, h.ackCalled_exited⟩ }
  case case16 => -- recover
    refine { h with
      perm := ?_
      exited_processed := nofun, exited_entered := nofun, entered_held := nofun, ackCalled_exited := nofun
      entered_nodup := List.nodup_nil }
    simpa using (((List.reverse_perm s.unacked).append_right s.pending).trans List.perm_append_comm
      |>.append_right s.acked).trans h.perm

theorem reach_inv {s : State} (h : Reach s) : Inv s := by
  induction h with
  | init => exact inv_init
  | step e _ hs ih => exact step_inv ih hs

theorem reach_run {s s' : State} {evs : List Ev} (h : Reach s) (hr : run s evs = .ok s') :
    Reach s' :=
  reach_of_run step run (fun _ => rfl) (fun s e _ => by cases h : step s e <;> simp only [run, h]) Reach.step h hr

/-- C11: at every crash point every accepted item is pending, unacknowledged or acknowledged —
    nothing is lost, nothing is duplicated. -/
theorem conservation {s : State} (h : Reach s) :
    (s.pending ++ s.unacked ++ s.acked).Perm s.accepted :=
  (reach_inv h).perm

/-- the sequence numbers given out so far, latest first -/
theorem accepted_eq {s : State} (h : Reach s) : s.accepted = (List.range s.next).reverse :=
  (reach_inv h).acc

theorem accepted_nodup {s : State} (h : Reach s) : s.accepted.Nodup :=
  accepted_eq h ▸ (List.reverse_perm _).nodup_iff.2 List.nodup_range

theorem accepted_lt_next {s : State} (h : Reach s) : ∀ x ∈ s.accepted, x < s.next := by
  simp [accepted_eq h, List.mem_range]

theorem held_nodup {s : State} (h : Reach s) : (s.pending ++ s.unacked ++ s.acked).Nodup :=
  (conservation h).nodup_iff.mpr (accepted_nodup h)

theorem mem_accepted_iff {s : State} (h : Reach s) (x : Nat) :
    x ∈ s.accepted ↔ x ∈ s.pending ∨ x ∈ s.unacked ∨ x ∈ s.acked := by
  rw [← (conservation h).mem_iff]
  simp

theorem pending_nodup {s : State} (h : Reach s) : s.pending.Nodup :=
  (List.nodup_append.mp (List.nodup_append.mp (held_nodup h)).1).1

theorem unacked_nodup {s : State} (h : Reach s) : s.unacked.Nodup :=
  (List.nodup_append.mp (List.nodup_append.mp (held_nodup h)).1).2.1

/-- an item is acknowledged at most once (over all processes) -/
theorem ack_at_most_once {s : State} (h : Reach s) : s.acked.Nodup :=
  (List.nodup_append.mp (held_nodup h)).2.1

theorem pending_unacked_disjoint {s : State} (h : Reach s) {x : Nat} :
    x ∈ s.pending → x ∉ s.unacked := by
  intro hp hu
  exact (List.nodup_append.mp (List.nodup_append.mp (held_nodup h)).1).2.2 x hp x hu rfl

theorem pending_acked_disjoint {s : State} (h : Reach s) {x : Nat} :
    x ∈ s.pending → x ∉ s.acked := by
  intro hp ha
  exact (List.nodup_append.mp (held_nodup h)).2.2 x (List.mem_append_left _ hp) x ha rfl

theorem unacked_acked_disjoint {s : State} (h : Reach s) {x : Nat} :
    x ∈ s.unacked → x ∉ s.acked := by
  intro hu ha
  exact (List.nodup_append.mp (held_nodup h)).2.2 x (List.mem_append_right _ hu) x ha rfl

/-- acknowledged only after the worker function returned for it -/
theorem acked_processed {s : State} (h : Reach s) : ∀ x ∈ s.acked, x ∈ s.processed :=
  fun _ hx => (reach_inv h).acked_processed hx

theorem not_processed_not_acked {s : State} {x : Nat} (h : Reach s) :
    x ∉ s.processed → x ∉ s.acked :=
  fun hn ha => hn (acked_processed h x ha)

theorem held_or_done {s : State} {x : Nat} (h : Reach s) (hx : x ∈ s.accepted) :
    x ∈ s.pending ∨ x ∈ s.unacked ∨ (x ∈ s.acked ∧ x ∈ s.processed) :=
  ((mem_accepted_iff h x).mp hx).imp_right (Or.imp_right fun ha => ⟨ha, acked_processed h x ha⟩)

theorem held_sub_accepted {s : State} {x : Nat} (h : Reach s)
    (hx : x ∈ s.pending ∨ x ∈ s.unacked ∨ x ∈ s.acked) : x ∈ s.accepted :=
  (mem_accepted_iff h x).mpr hx

/-- what a fresh process finds after a crash at `s`: everything that was pending or delivered but
    unacknowledged is pending, nothing is in flight, the acknowledged set is unchanged.
    (The hypothesis `_h` is not used.) -/
theorem recover_keeps_all {s s' : State} (_h : Reach s) (hs : step s .recover = .ok s') :
    (∀ x, x ∈ s'.pending ↔ x ∈ s.pending ∨ x ∈ s.unacked) ∧ s'.unacked = [] ∧ s'.acked = s.acked := by
  cases hs
  exact ⟨fun x => by simp [or_comm], rfl, rfl⟩

theorem recover_enabled (s : State) : ∃ s', step s .recover = .ok s' := ⟨_, rfl⟩

theorem recover_keeps_ghost {s s' : State} (hs : step s .recover = .ok s') :
    s'.accepted = s.accepted ∧ s'.processed = s.processed ∧ s'.next = s.next := by
  cases hs
  exact ⟨rfl, rfl, rfl⟩

/-- after a crash and recovery every accepted item is pending again or acknowledged (and then
    processed): no accepted item is lost by the death of the process -/
theorem recover_conservation {s s' : State} {x : Nat} (h : Reach s)
    (hs : step s .recover = .ok s') (hx : x ∈ s.accepted) :
    x ∈ s'.pending ∨ (x ∈ s'.acked ∧ x ∈ s'.processed) := by
  obtain ⟨hp, _, ha⟩ := recover_keeps_all h hs
  obtain ⟨_, hpr, _⟩ := recover_keeps_ghost hs
  rcases held_or_done h hx with h1 | h1 | ⟨h1, h2⟩
  · exact Or.inl ((hp x).mpr (Or.inl h1))
  · exact Or.inl ((hp x).mpr (Or.inr h1))
  · exact Or.inr ⟨ha ▸ h1, hpr ▸ h2⟩

theorem exited_sub_processed {s : State} (h : Reach s) : ∀ x ∈ s.exited, x ∈ s.processed :=
  fun _ hx => (reach_inv h).exited_processed hx

theorem exited_sub_entered {s : State} (h : Reach s) : ∀ x ∈ s.exited, x ∈ s.entered :=
  fun _ hx => (reach_inv h).exited_entered hx

/-- a delivery whose worker function was entered in this process is still unacknowledged or has
    been acknowledged: it is never back in `pending` while the process lives -/
theorem entered_sub_unacked_or_acked {s : State} (h : Reach s) :
    ∀ x ∈ s.entered, x ∈ s.unacked ∨ x ∈ s.acked :=
  fun _ hx => List.mem_append.1 ((reach_inv h).entered_held hx)

theorem entered_not_pending {s : State} {x : Nat} (h : Reach s) (hx : x ∈ s.entered) :
    x ∉ s.pending := by
  intro hp
  rcases entered_sub_unacked_or_acked h x hx with hu | ha
  · exact pending_unacked_disjoint h hp hu
  · exact pending_acked_disjoint h hp ha

theorem ackCalled_sub_exited {s : State} (h : Reach s) : ∀ x ∈ s.ackCalled, x ∈ s.exited :=
  fun _ hx => (reach_inv h).ackCalled_exited hx

theorem acked_of_ack_ok {s s' : State} {x : Nat} (h : Reach s) (hs : step s (.ack x true) = .ok s') :
    x ∈ s'.acked ∧ x ∉ s'.unacked ∧ x ∉ s'.pending ∧ x ∈ s'.processed := by
  have hr : Reach s' := Reach.step _ h hs
  have ha : x ∈ s'.acked := by
    simp [step] at hs
    obtain ⟨-, -, -, rfl⟩ := hs
    exact List.mem_cons_self
  exact ⟨ha, fun hu => unacked_acked_disjoint hr hu ha, fun hp => pending_acked_disjoint hr hp ha,
    acked_processed hr x ha⟩

theorem ack_refused_keeps {s s' : State} {x : Nat} (hs : step s (.ack x false) = .ok s') :
    s'.pending = s.pending ∧ s'.unacked = s.unacked ∧ s'.acked = s.acked := by
  simp [step] at hs
  obtain ⟨-, -, rfl⟩ := hs
  exact ⟨rfl, rfl, rfl⟩

/-- 3 items accepted; item 0 delivered, processed, acknowledged; item 1 delivered and in flight
    (worker function entered); crash.  The fresh process finds 1 pending again (before 2), nothing
    unacknowledged, 0 acknowledged. -/
def trace1 : List Ev :=
  [.enq true, .enq true, .enq true,
   .deq 0, .enter 0, .exit 0, .ack 0 true,
   .deq 1, .enter 1,
   .recover]

def state1 : State :=
  { next := 3, accepted := [2, 1, 0], pending := [1, 2], unacked := [], acked := [0],
    entered := [], exited := [], ackCalled := [], processed := [0] }

example : run init trace1 = .ok state1 := rfl

/-- … then the in-flight item 1 is redelivered, processed and acknowledged. -/
def trace2 : List Ev := trace1 ++ [.deq 1, .enter 1, .exit 1, .ack 1 true]

def state2 : State :=
  { next := 3, accepted := [2, 1, 0], pending := [2], unacked := [], acked := [1, 0],
    entered := [1], exited := [1], ackCalled := [1], processed := [1, 0] }

example : run init trace2 = .ok state2 := rfl

theorem reach_state1 : Reach state1 := reach_run Reach.init (evs := trace1) rfl
theorem reach_state2 : Reach state2 := reach_run Reach.init (evs := trace2) rfl

/-- the crash point just before `recover` in `trace1`: item 1 is unacknowledged and entered, not
    processed, not acknowledged -/
def state1pre : State :=
  { next := 3, accepted := [2, 1, 0], pending := [2], unacked := [1], acked := [0],
    entered := [1, 0], exited := [0], ackCalled := [0], processed := [0] }

example : run init trace1.dropLast = .ok state1pre := rfl
theorem reach_state1pre : Reach state1pre := reach_run Reach.init (evs := trace1.dropLast) rfl

/-- instances of the main theorems on these states (hypotheses are satisfiable, conclusions are
    not trivially true: all three components are non-empty in `state1pre`) -/
example : (state1pre.pending ++ state1pre.unacked ++ state1pre.acked).Perm state1pre.accepted :=
  conservation reach_state1pre
example : ([2] ++ [1] ++ [0] : List Nat).Perm [2, 1, 0] := conservation reach_state1pre
example : state1pre.accepted.Nodup ∧ state1pre.accepted ≠ [] := ⟨accepted_nodup reach_state1pre, by decide⟩
example : ∀ x ∈ state1pre.accepted, x < 3 := accepted_lt_next reach_state1pre
example : (0 : Nat) ∈ state2.acked ∧ (0 : Nat) ∈ state2.processed :=
  ⟨by decide, acked_processed reach_state2 0 (by decide)⟩
example : state2.acked.Nodup ∧ state2.acked.length = 2 := ⟨ack_at_most_once reach_state2, by decide⟩
example : (1 : Nat) ∉ state1pre.processed ∧ (1 : Nat) ∉ state1pre.acked :=
  ⟨by decide, not_processed_not_acked reach_state1pre (by decide)⟩
example : (1 : Nat) ∈ state1pre.accepted ∧ (1 : Nat) ∈ state1pre.unacked := by decide
example : (1 : Nat) ∈ state1pre.pending ∨ (1 : Nat) ∈ state1pre.unacked ∨
    ((1 : Nat) ∈ state1pre.acked ∧ (1 : Nat) ∈ state1pre.processed) :=
  held_or_done reach_state1pre (by decide)
example : step state1pre .recover = .ok state1 := rfl
example : (∀ x, x ∈ state1.pending ↔ x ∈ state1pre.pending ∨ x ∈ state1pre.unacked) ∧
    state1.unacked = [] ∧ state1.acked = state1pre.acked :=
  recover_keeps_all reach_state1pre rfl
example : (1 : Nat) ∈ state1pre.entered ∧ ((1 : Nat) ∈ state1pre.unacked ∨ (1 : Nat) ∈ state1pre.acked) :=
  ⟨by decide, entered_sub_unacked_or_acked reach_state1pre 1 (by decide)⟩

/-- a refused acknowledge (ok = false) leaves the item unacknowledged; a second Acknowledge for
    it in the same process is outside the library's program order (guard), and after a crash the
    item is pending again. -/
def trace3 : List Ev := [.enq true, .deq 0, .enter 0, .exit 0, .ack 0 false]

def state3 : State :=
  { next := 1, accepted := [0], pending := [], unacked := [0], acked := [],
    entered := [0], exited := [0], ackCalled := [0], processed := [0] }

example : run init trace3 = .ok state3 := rfl
theorem reach_state3 : Reach state3 := reach_run Reach.init (evs := trace3) rfl
example : (0 : Nat) ∈ state3.unacked ∧ (0 : Nat) ∉ state3.acked ∧ (0 : Nat) ∈ state3.processed := by decide
example : (run init (trace3 ++ [.recover])).toOption.map (·.pending) = some [0] := by decide
example : (run init (trace3 ++ [.ack 0 true])).toOption = none := by decide

/-- guards are live: acknowledging before the worker function returned, and delivering an item
    that is not pending, are rejected -/
example : (run init [.enq true, .deq 0, .enter 0, .ack 0 true]).toOption = none := by decide
example : (run init [.enq true, .deq 0, .deq 0]).toOption = none := by decide
/-- a refused Enqueue accepts nothing -/
example : run init [.enq false] = .ok init := rfl

end Ack
end VarmqVerif

#print axioms VarmqVerif.Ack.conservation
#print axioms VarmqVerif.Ack.accepted_nodup
#print axioms VarmqVerif.Ack.accepted_lt_next
#print axioms VarmqVerif.Ack.held_nodup
#print axioms VarmqVerif.Ack.mem_accepted_iff
#print axioms VarmqVerif.Ack.pending_nodup
#print axioms VarmqVerif.Ack.unacked_nodup
#print axioms VarmqVerif.Ack.ack_at_most_once
#print axioms VarmqVerif.Ack.pending_unacked_disjoint
#print axioms VarmqVerif.Ack.pending_acked_disjoint
#print axioms VarmqVerif.Ack.unacked_acked_disjoint
#print axioms VarmqVerif.Ack.acked_processed
#print axioms VarmqVerif.Ack.not_processed_not_acked
#print axioms VarmqVerif.Ack.held_or_done
#print axioms VarmqVerif.Ack.held_sub_accepted
#print axioms VarmqVerif.Ack.recover_keeps_all
#print axioms VarmqVerif.Ack.recover_keeps_ghost
#print axioms VarmqVerif.Ack.recover_conservation
#print axioms VarmqVerif.Ack.exited_sub_processed
#print axioms VarmqVerif.Ack.exited_sub_entered
#print axioms VarmqVerif.Ack.entered_sub_unacked_or_acked
#print axioms VarmqVerif.Ack.entered_not_pending
#print axioms VarmqVerif.Ack.ackCalled_sub_exited
#print axioms VarmqVerif.Ack.acked_of_ack_ok
#print axioms VarmqVerif.Ack.ack_refused_keeps
#print axioms VarmqVerif.Ack.reach_inv
#print axioms VarmqVerif.Ack.reach_run
