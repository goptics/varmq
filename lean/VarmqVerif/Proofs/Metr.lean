/-
  Theorems about the metrics model `Metr` (Model/Metr.lean), for every reachable state (any number of
  goroutines and events).  The conservation laws (`census`): each real counter plus the goroutines that are
  past the event but before the increment equals the ghost history counter.  The orderings and the exactness
  at rest follow once the ghost census is known to count the goroutines in each phase (`census_phases`).
  The inductive invariants are `Cen` and `Sup` in Proofs/MetrLemmas.lean.
-/
import VarmqVerif.Proofs.MetrLemmas

namespace VarmqVerif
namespace Metr

/-- `State` has function fields, so it has no `DecidableEq`: the examples compare this projection. -/
structure View where
  sub : Nat
  comp : Nat
  succ : Nat
  fail : Nat
  deriving DecidableEq, Repr

def view (s : State) : View := ⟨s.sub, s.comp, s.succ, s.fail⟩

structure Census where
  nOwes : Nat
  nRunning : Nat
  nExited : Nat
  nExitedBad : Nat
  nCounted : Nat
  deriving DecidableEq, Repr

def censusOf (s : State) : Census := ⟨s.nOwes, s.nRunning, s.nExited, s.nExitedBad, s.nCounted⟩

structure History where
  accepted : Nat
  entered : Nat
  exited : Nat
  exitedBad : Nat
  deriving DecidableEq, Repr

def historyOf (s : State) : History := ⟨s.accepted, s.entered, s.exited, s.exitedBad⟩

def runProj {α : Type} (f : State → α) (evs : List Ev) : Option α :=
  match run init evs with
  | .ok s => some (f s)
  | .error _ => none

theorem reach_of_runProj {α : Type} {f : State → α} {evs : List Ev} {x : α}
    (h : runProj f evs = some x) : ∃ s, Reach s ∧ run init evs = .ok s ∧ f s = x := by
  unfold runProj at h
  split at h
  · rename_i s hs
    exact ⟨s, reach_run Reach.init hs, hs, by simpa using h⟩
  · cases h

theorem census (s : State) (h : Reach s) :
    s.comp + s.nCounted = s.succ + s.fail ∧ s.succ + s.fail + s.nExited = s.exited ∧ s.exited + s.nRunning = s.entered ∧
    s.fail + s.nExitedBad = s.exitedBad ∧ s.sub + s.nOwes = s.accepted := by
  induction h with
  | init => simp [init]
  | step e _ h ih => exact cen_step ih h

theorem census_support (s : State) (h : Reach s) :
    ∃ l : List Nat, l.Nodup ∧ (∀ g, g ∉ l → s.ph g = .idle ∧ s.owes g = 0) ∧
      (l.filter (fun g => s.ph g = .running)).length = s.nRunning ∧
      (l.filter (fun g => s.ph g = .exited false ∨ s.ph g = .exited true)).length = s.nExited ∧
      (l.filter (fun g => s.ph g = .exited true)).length = s.nExitedBad ∧
      (l.filter (fun g => s.ph g = .counted)).length = s.nCounted ∧
      (l.map s.owes).sum = s.nOwes := by
  obtain ⟨l, hs⟩ := reach_sup h
  refine ⟨l, hs.nodup, hs.out, ?_, ?_, ?_, ?_, hs.owe⟩
  · rw [← hs.run, sumOn_ind]
  · rw [← hs.ex, sumOn_ind]
  · rw [← hs.bad, sumOn_ind]
  · rw [← hs.cnt, sumOn_ind]

theorem census_phases (s : State) (h : Reach s) :
    (s.nRunning = 0 ↔ ∀ g, s.ph g ≠ .running) ∧ (s.nExited = 0 ↔ ∀ g b, s.ph g ≠ .exited b) ∧
    (s.nCounted = 0 ↔ ∀ g, s.ph g ≠ .counted) ∧ (s.nOwes = 0 ↔ ∀ g, s.owes g = 0) := by
  obtain ⟨l, hs⟩ := reach_sup h
  refine ⟨?_, ?_, ?_, sumOf_eq_zero_iff hs.sumOf_owes⟩
  · simp only [sumOf_eq_zero_iff (hs.sumOf rfl hs.run), ind_eq_zero_iff, ne_eq]
  · simp [sumOf_eq_zero_iff (hs.sumOf rfl hs.ex), ind_eq_zero_iff]
  · simp only [sumOf_eq_zero_iff (hs.sumOf rfl hs.cnt), ind_eq_zero_iff, ne_eq]

/-- both count goroutines of the same list, and who exited badly exited -/
theorem nExitedBad_le_nExited (s : State) (h : Reach s) : s.nExitedBad ≤ s.nExited := by
  obtain ⟨l, -, -, -, he, hb, -⟩ := census_support s h
  rw [← he, ← hb, ← List.countP_eq_length_filter, ← List.countP_eq_length_filter]
  exact List.countP_mono_left fun g _ hg => by simp_all

theorem nExitedBad_eq_zero_iff (s : State) (h : Reach s) : s.nExitedBad = 0 ↔ ∀ g, s.ph g ≠ .exited true := by
  obtain ⟨l, hs⟩ := reach_sup h
  simp only [sumOf_eq_zero_iff (hs.sumOf rfl hs.bad), ind_eq_zero_iff, ne_eq]

theorem ordering (s : State) (h : Reach s) :
    s.comp ≤ s.succ + s.fail ∧ s.succ + s.fail ≤ s.exited ∧ s.exited ≤ s.entered ∧ s.fail ≤ s.exitedBad ∧
    s.succ + s.exitedBad ≤ s.exited + s.fail ∧ s.sub ≤ s.accepted := by
  have hc := census s h
  have hb := nExitedBad_le_nExited s h
  omega

theorem atRest_iff (s : State) (h : Reach s) :
    AtRest s ↔ s.nRunning = 0 ∧ s.nExited = 0 ∧ s.nCounted = 0 ∧ s.nOwes = 0 := by
  obtain ⟨h1, h2, h3, h4⟩ := census_phases s h
  rw [h1, h2, h3, h4]
  refine ⟨fun ⟨hp, ho⟩ => by simp [hp, ho], fun ⟨b1, b2, b3, ho⟩ => ⟨fun g => ?_, ho⟩⟩
  cases hp : s.ph g with
  | idle => rfl
  | running => exact absurd hp (b1 g)
  | exited b => exact absurd hp (b2 g b)
  | counted => exact absurd hp (b3 g)

theorem at_rest_exact (s : State) (h : Reach s) (hr : AtRest s) :
    s.comp = s.succ + s.fail ∧ s.succ + s.fail = s.exited ∧ s.exited = s.entered ∧ s.fail = s.exitedBad ∧ s.sub = s.accepted := by
  have hc := census s h
  have hb := nExitedBad_le_nExited s h
  have hz := (atRest_iff s h).mp hr
  omega

theorem read_exact (s s' : State) (c : Ctr) (v : Nat) (h : step s (.ld c v) = .ok s') : v = s.ctr c ∧ s' = s := by
  simp [step] at h
  exact ⟨h.1, h.2.symm⟩

theorem counters_monotone (s s' : State) (e : Ev) (h : step s e = .ok s') :
    s.sub ≤ s'.sub ∧ s.comp ≤ s'.comp ∧ s.succ ≤ s'.succ ∧ s.fail ≤ s'.fail := by
  revert h
  fun_cases step s e <;> rintro ⟨⟩ <;> simp

theorem counters_monotone_run (s s' : State) (es : List Ev) (h : run s es = .ok s') :
    s.sub ≤ s'.sub ∧ s.comp ≤ s'.comp ∧ s.succ ≤ s'.succ ∧ s.fail ≤ s'.fail := by
  induction es generalizing s with
  | nil => cases h; simp
  | cons e es ih =>
    unfold run at h
    split at h
    · have a := counters_monotone s _ e ‹_›
      have b := ih _ h
      omega
    · cases h

/-! The "ghost counter is 0" guards of `step` are dead: a census entry that is 0 leaves no goroutine in that phase. -/

theorem owes_le_nOwes (s : State) (h : Reach s) (g : Nat) : s.owes g ≤ s.nOwes := by
  obtain ⟨l, hs⟩ := reach_sup h
  exact sumOf_le hs.sumOf_owes g

theorem incSub_enabled (s : State) (h : Reach s) (g : Nat) (ho : s.owes g ≠ 0) :
    ∃ s', step s (.incSub g (s.sub + 1)) = .ok s' := by
  have := owes_le_nOwes s h g
  have hn : s.nOwes ≠ 0 := by omega
  simp [step, ho, hn]

theorem exit_enabled (s : State) (h : Reach s) (g : Nat) (bad : Bool) (hp : s.ph g = .running) :
    ∃ s', step s (.exit g bad) = .ok s' := by
  have hn : s.nRunning ≠ 0 := fun h0 => (census_phases s h).1.mp h0 g hp
  simp [step, hp, hn]

theorem incSucc_enabled (s : State) (h : Reach s) (g : Nat) (hp : s.ph g = .exited false) :
    ∃ s', step s (.incSucc g (s.succ + 1)) = .ok s' := by
  have hn : s.nExited ≠ 0 := fun h0 => (census_phases s h).2.1.mp h0 g false hp
  simp [step, hp, hn]

theorem incFail_enabled (s : State) (h : Reach s) (g : Nat) (hp : s.ph g = .exited true) :
    ∃ s', step s (.incFail g (s.fail + 1)) = .ok s' := by
  have hn : s.nExited ≠ 0 := fun h0 => (census_phases s h).2.1.mp h0 g true hp
  have hb : s.nExitedBad ≠ 0 := fun h0 => (nExitedBad_eq_zero_iff s h).mp h0 g hp
  simp [step, hp, hn, hb]

theorem incComp_enabled (s : State) (h : Reach s) (g : Nat) (hp : s.ph g = .counted) :
    ∃ s', step s (.incComp g (s.comp + 1)) = .ok s' := by
  have hn : s.nCounted ≠ 0 := fun h0 => (census_phases s h).2.2.1.mp h0 g hp
  simp [step, hp, hn]

/-- two submissions by goroutine 5, two workers 1 and 2: job of 1 succeeds, job of 2 fails -/
def exTwoJobs : List Ev := [
  .enqOk 5, .incSub 5 1, .enqOk 5, .enter 1, .incSub 5 2, .enter 2,
  .exit 2 true, .exit 1 false, .incFail 2 1, .incSucc 1 1, .incComp 1 1, .ld .comp 1, .incComp 2 2,
  .ld .sub 2, .ld .comp 2, .ld .succ 1, .ld .fail 1]

example : exTwoJobs.length = 17 := rfl
-- 3: two accepted, one counted as submitted
example : runProj (fun s => (view s, censusOf s)) (exTwoJobs.take 3) = some (⟨1, 0, 0, 0⟩, ⟨1, 0, 0, 0, 0⟩) := by decide
-- 8: both worker functions have returned, nothing is counted yet
example : runProj (fun s => (view s, censusOf s, historyOf s)) (exTwoJobs.take 8)
    = some (⟨2, 0, 0, 0⟩, ⟨0, 0, 2, 1, 0⟩, ⟨2, 2, 2, 1⟩) := by decide
-- 10: both jobs counted, none completed
example : runProj (fun s => (view s, censusOf s, s.ph 1, s.ph 2)) (exTwoJobs.take 10)
    = some (⟨2, 0, 1, 1⟩, ⟨0, 0, 0, 0, 2⟩, .counted, .counted) := by decide
-- 17: at rest
example : runProj (fun s => (view s, censusOf s, historyOf s)) exTwoJobs
    = some (⟨2, 2, 1, 1⟩, ⟨0, 0, 0, 0, 0⟩, ⟨2, 2, 2, 1⟩) := by decide

-- `ordering` can be strict when not at rest: a job was counted successful but is not yet completed
example : ∃ s, Reach s ∧ ¬ AtRest s ∧ s.comp < s.succ + s.fail := by
  have hr := reach_run Reach.init (es := [.enqOk 5, .incSub 5 1, .enter 1, .exit 1 false, .incSucc 1 1]) rfl
  exact ⟨_, hr, fun h => absurd (h.1 1) (by decide), by decide⟩

-- `at_rest_exact` is not vacuous: `exTwoJobs` ends at rest, with these real counters …
example : ∃ s, Reach s ∧ AtRest s ∧ s.sub = 2 ∧ s.comp = 2 ∧ s.succ = 1 ∧ s.fail = 1 := by
  have hr := reach_run Reach.init (es := exTwoJobs) rfl
  exact ⟨_, hr, (atRest_iff _ hr).mpr ⟨rfl, rfl, rfl, rfl⟩, rfl, rfl, rfl, rfl⟩

-- … and the history counters that the theorem says
example : ∃ s, Reach s ∧ AtRest s ∧ s.entered = 2 ∧ s.exitedBad = 1 ∧ s.accepted = 2 := by
  have hr := reach_run Reach.init (es := exTwoJobs) rfl
  exact ⟨_, hr, (atRest_iff _ hr).mpr ⟨rfl, rfl, rfl, rfl⟩, rfl, rfl, rfl⟩

-- rejected: incCompleted before incSuccessful …
example : runProj view [.enter 1, .exit 1 false, .incComp 1 1] = none := by decide
example : run init [.enter 1, .exit 1 false, .incComp 1 1]
    = .error "incCompleted by a goroutine whose job has not been counted successful or failed" := rfl
-- … incSuccessful for a job that failed or panicked …
example : runProj view [.enter 1, .exit 1 true, .incSucc 1 1] = none := by decide
example : run init [.enter 1, .exit 1 true, .incSucc 1 1]
    = .error "incSuccessful for a job that did not return successfully" := rfl
-- … incFailed for a job that succeeded, a second incCompleted, a worker function entered twice,
-- an incSubmitted nobody owes, a counter that returns a wrong value, a stale read
example : runProj view [.enter 1, .exit 1 false, .incFail 1 1] = none := by decide
example : runProj view [.enter 1, .exit 1 false, .incSucc 1 1, .incComp 1 1, .incComp 1 2] = none := by decide
example : runProj view [.enter 1, .enter 1] = none := by decide
example : runProj view [.enqOk 5, .incSub 6 1] = none := by decide
example : runProj view [.enqOk 5, .incSub 5 1, .incSub 5 2] = none := by decide
example : runProj view [.enqOk 5, .enqOk 6, .incSub 5 1, .incSub 6 1] = none := by decide
example : runProj view [.enqOk 5, .incSub 5 1, .ld .sub 0] = none := by decide
-- the same goroutine may run one job after the other
example : runProj view [.enter 1, .exit 1 false, .incSucc 1 1, .incComp 1 1, .enter 1, .exit 1 true, .incFail 1 1, .incComp 1 2]
    = some ⟨0, 2, 1, 1⟩ := by decide

#print axioms census
#print axioms ordering
#print axioms census_phases
#print axioms census_support
#print axioms at_rest_exact
#print axioms read_exact
#print axioms counters_monotone

end Metr
end VarmqVerif
