/-
  Inductive invariants of the reservation / barrier protocol model `Res` (Model/Res.lean) and their
  preservation by every `step`.  The user-facing theorems are in Proofs/Res.lean.  `reach_inv` gives three:
    `Inv1`  the slot accounting `Acc` and the bounds by `maxConc` (of `conc`, of a loaded limit, of `cur`, of a value taken)
    `Inv`   the quiet windows: who may conclude `Quiet s` (`InvQ` with the claim abstracted); it needs `Acc`
    `Bud`   the budget after a plain Pause; it needs clause D of `Inv`

  The successful cases of `fun_cases step s e`, by number:
     3 ldCurD   6 ldConcD   12, 13 casCur (won, lost)   18, 19 ldStatusD (quiet status, not)
     23, 24 ldConcR (taken value over the limit, within)   28, 30 relD (from mustRelease, from holding)   34 send
     37 enter   40 exit   45 relR   47 lockL   49 unlockL   51 ldStatusL   56 stStatus   58 stConc
     60 ldStatusB   62, 63 ldCurB (sets `checked`, not)   66, 68, 70 ldStatusAny, ldCurAny, ldConcAny
     72, 73 call (of a resumer, other)   77 ret of a resumer   79 ret nil of a barrier call
     80 ret nil of a plain Pause that sets the budget   81 other ret
-/
import VarmqVerif.Model.Res
import VarmqVerif.Proofs.Guard

namespace VarmqVerif

namespace Res

/-- unfold `step` on a concrete constructor, split all guards, discard error branches and
    substitute the successor state -/
macro "res_step_cases " h:ident : tactic =>
  `(tactic| (simp only [step] at $h:ident <;> (repeat' split at $h:ident) <;> (try (cases $h:ident))))

theorem upd_ne {β} {f : Nat → β} {g x : Nat} {v w : β} (h : upd f g v x = w) (hv : v ≠ w) : f x = w := by
  unfold upd at h; split at h
  · exact absurd h hv
  · exact h

/-- `≠ w` carries back from the updated function to `f`, provided `w` is overwritten only by `w` -/
theorem ne_of_upd_ne {β} {f : Nat → β} {g x : Nat} {v w : β} (hg : v ≠ w → f g ≠ w)
    (h : upd f g v x ≠ w) : f x ≠ w := by
  unfold upd at h; split at h
  · subst x; exact hg h
  · exact h

/-- slot accounting: every unit of `curProcessing` is owned by exactly one protocol stage -/
def Acc (s : State) : Prop := s.cur = s.nRes + s.nHold + s.handed + s.nExec + s.nDone

/-- `nRes` may be non-zero: a dispatcher may still hold a reservation it is about to give back. -/
def Quiet (s : State) : Prop :=
  isQuietStatus s.ws = true ∧ s.nHold = 0 ∧ s.handed = 0 ∧ s.nExec = 0 ∧ s.nDone = 0

structure Inv1 (s : State) : Prop where
  acc : Acc s
  conc : s.conc ≤ s.maxConc
  lcc : ∀ g cc, s.lcc g = some cc → cc ≤ s.maxConc
  cur : s.cur ≤ s.maxConc
  /-- a dispatcher that holds a slot took a value that `cur` had, so one between 1 and `maxConc` -/
  tk : ∀ g, s.ph g ≠ .idle → 1 ≤ s.tk g ∧ s.tk g ≤ s.maxConc

theorem inv1_step {s s' : State} {e : Ev} (h : step s e = .ok s') (i : Inv1 s) : Inv1 s' := by
  obtain ⟨a, c, l, m, t⟩ := i
  unfold Acc at a
  revert h; fun_cases step s e <;> intro h <;> (first | (cases h; done) | (injection h with h; subst h))
  -- the lifecycle and barrier events, the plain loads, call and ret write no field that `Inv1` reads
  all_goals first | exact ⟨a, c, l, m, t⟩ | skip
  all_goals simp only [bne_iff_ne, beq_iff_eq, ne_eq, Decidable.not_not, Bool.not_eq_true', decide_eq_false_iff_not] at *
  -- ldCurD, failed casCur: an entry of `lcc` is cleared
  case case3 | case13 => exact ⟨a, c, fun x cc hl => l x cc (upd_ne hl nofun), m, t⟩
  case case6 g v _ _ =>
    -- ldConcD: the limit loaded is the current one
    refine ⟨a, c, fun x cc (hl : upd _ _ _ x = _) => ?_, m, t⟩
    unfold upd at hl; split at hl
    · exact Option.some.inj hl ▸ ‹v = s.conc› ▸ c
    · exact l x cc hl
  case case12 g old new c0 cc hcc _ _ _ _ _ hc =>
    -- casCur, successful: `cur = c < cc ≤ maxConc` for the limit `cc` the dispatcher had loaded
    have := l _ _ hcc
    have : s.cur = _ := beq_iff_eq.1 hc.symm
    refine ⟨?_, c, fun x cc hl => l x cc (upd_ne hl nofun), ?_, ?_⟩
    · simp only [Acc]; omega
    · simp only; omega
    · grind [upd]
  -- enter, exit, relR: one unit leaves a counter that the guard found non-zero, for the next counter or out of `cur`
  case case37 | case40 | case45 => exact ⟨by simp only [Acc]; omega, c, l, by simp only; omega, t⟩
  case case58 g v =>
    -- stConc: `maxConc` only grows
    have : s.maxConc ≤ max s.maxConc v := Nat.le_max_left ..
    exact ⟨a, Nat.le_max_right .., fun x cc hl => Nat.le_trans (l x cc hl) this, Nat.le_trans m this,
      fun x hp => ⟨(t x hp).1, Nat.le_trans (t x hp).2 this⟩⟩
  -- ldStatusD, ldConcR, relD, send: as enter, exit, relR, and the phase that changes was not `idle` before
  all_goals exact ⟨by simp only [Acc]; omega, c, l, by simp only; omega, fun x hp => t x (ne_of_upd_ne (by simp [*]) hp)⟩

theorem quiet_step {s s' : State} {e : Ev} (h : step s e = .ok s') (q : Quiet s)
    (hst : ∀ g v, e = .stStatus g v → isQuietStatus v = true) : Quiet s' := by
  obtain ⟨q1, q2, q3, q4, q5⟩ := q
  revert h hst; fun_cases step s e <;> intro h hst <;> (first | (cases h; done) | (injection h with h; subst h))
  all_goals first | exact ⟨q1, q2, q3, q4, q5⟩ | skip
  -- stStatus: the status stored is quiet, `hst`
  case case56 => exact ⟨hst _ _ rfl, q2, q3, q4, q5⟩
  -- no other event that writes a field of `Quiet` is enabled: `ldStatusD` counts in `nHold` only under a non-quiet status,
  -- the others decrement a counter that their guard wants non-zero
  all_goals (exfalso; simp_all)

theorem mayStore_nonresumer {a : Api} {v : Nat} (h : mayStore a v = true) (hr : a.isResumer = false) :
    isQuietStatus v = true := by
  cases a <;> simp_all [mayStore, Api.isResumer, isQuietStatus]

theorem mayStore_cases {a : Api} {v : Nat} (h : mayStore a v = true) :
    isQuietStatus v = true ∨ v = running ∨ v = initiated := by
  cases a <;> simp_all [mayStore, isQuietStatus] <;> omega

theorem mayStore_stopped {a : Api} (h : mayStore a stopped = true) : a.isResumer = false := by
  cases a <;> first | rfl | exact absurd h (by decide)

/-- `Inv` with the claim `Quiet s` abstracted: the bookkeeping of who has seen the worker quiet never looks inside the claim
     D  no resumer call is open while some goroutine is non-dirty
     K  `checked g`, no resumer since `call g`: the claim
     J  `checked g` and g has held `w.lifecycle` since, inside a non-resumer call: the claim
     S  status stopped: the claim
     L  g loaded `stopped`, no resumer since `call g`: the claim
     F  frozen: no open resumer, the claim -/
structure InvQ (s : State) (Q : Prop) : Prop where
  D : ∀ g, s.dirty g = false → s.openResumers = 0
  K : ∀ g, s.checked g = true → s.dirty g = false → Q
  J : ∀ g a, s.lockL = some g → s.checked g = true → s.inCall g = some a → a.isResumer = false → Q
  S : s.ws = stopped → Q
  L : ∀ g, s.ls g = some stopped → s.dirty g = false → Q
  F : s.frozen = true → s.openResumers = 0 ∧ Q

theorem InvQ.mono {s : State} {Q Q' : Prop} (hq : Q → Q') (i : InvQ s Q) : InvQ s Q' :=
  ⟨i.D, fun g c d => hq (i.K g c d), fun g a l c ic r => hq (i.J g a l c ic r), fun w => hq (i.S w),
    fun g l d => hq (i.L g l d), fun f => ⟨(i.F f).1, hq (i.F f).2⟩⟩

/-- `hz`: what establishes the claim, a barrier condition that reads `cur = 0` under a quiet status (`ldCurB`);
    `hq`: the claim survives the step, given that a status stored by it is a quiet one -/
theorem invQ_step {s s' : State} {e : Ev} {Q Q' : Prop} (h : step s e = .ok s') (i : InvQ s Q)
    (hz : s.cur = 0 → isQuietStatus s.ws = true → Q)
    (hq : (∀ g v, e = .stStatus g v → isQuietStatus v = true) → Q → Q') : InvQ s' Q' := by
  revert h hq; fun_cases step s e <;> intro h hq <;> (first | (cases h; done) | (injection h with h; subst h))
  case case56 g v _ a _ _ _ _ =>
    -- stStatus: wherever a conjunct makes the claim, the stored status is quiet: no resumer is open (D, F), so the guard
    -- excludes `running` and `initiated`, or the storing call is not a resumer (J; S by `mayStore_stopped`)
    have hq : isQuietStatus v = true → Q → Q' := fun hv => hq fun _ _ he => by cases he; exact hv
    have h1 := @mayStore_nonresumer
    have h2 := @mayStore_cases
    have h3 := @mayStore_stopped
    have ⟨hD, hK, hJ, hS, hL, hF⟩ := i
    clear hz i
    constructor <;> grind
  -- no other event stores a status: the claim is kept
  all_goals refine InvQ.mono (hq nofun) ?_
  all_goals clear hq
  -- dispatcher and runner events, `stConc`, the plain loads and a failed `ldCurB` write no field that `InvQ` reads
  all_goals first | exact { i with } | skip
  -- ldCurB sets `checked g`: `cur = 0` under a quiet status, which is `hz`
  case case62 => exact { i with K := by grind [upd], J := by grind [upd] }
  all_goals clear hz
  -- ldStatusL: a loaded `stopped` is the current status
  case case51 => exact { i with L := by have := i.L; have := i.S; grind [upd] }
  -- a barrier call returns nil and sets `frozen` if g is not dirty: no open resumer by D, the claim by K or L
  case case79 =>
    exact { i with J := by have := i.J; grind [upd], F := by have := i.D; have := i.K; have := i.L; grind }
  -- ret of a resumer: one was open, so every goroutine is dirty (D) and `frozen` is false (F)
  case case77 =>
    exact { i with D := by have := i.D; grind, J := by have := i.J; grind [upd], F := by have := i.F; grind }
  -- call of a resumer: it makes every goroutine dirty and clears `frozen`
  case case72 => exact { i with D := by grind, K := by grind, J := by have := i.J; grind [upd], L := by grind, F := by grind }
  -- call of another function: g is dirty unless no resumer is open; its `checked`, `ls` are cleared
  case case73 =>
    exact { i with D := by have := i.D; grind [upd], K := by have := i.K; grind [upd], J := by have := i.J; grind [upd],
                   L := by have := i.L; grind [upd] }
  -- lockL, ldStatusB clear `checked g`
  case case47 | case60 => exact { i with K := by have := i.K; grind [upd], J := by have := i.J; grind [upd] }
  -- unlockL, other returns: only J reads `lockL` and `inCall`
  all_goals exact { i with J := by have := i.J; grind [upd] }

/-- the quiet windows; `Acc` turns `cur = 0` into the four counters of `Quiet` being 0 -/
abbrev Inv (s : State) : Prop := InvQ s (Quiet s)

theorem inv_step {s s' : State} {e : Ev} (h : step s e = .ok s') (hacc : Acc s) (i : Inv s) : Inv s' :=
  invQ_step h i (fun h0 hw => by unfold Acc at hacc; refine ⟨hw, ?_, ?_, ?_, ?_⟩ <;> omega) fun hst q => quiet_step h q hst

/-- `budget` is set while a plain Pause has returned nil and no resumer was called since; `nHold + handed` are the jobs
    that may still start (past the status re-check, or handed to a node) -/
def Bud (s : State) : Prop :=
  ∀ b, s.budget = some b → s.openResumers = 0 ∧ isQuietStatus s.ws = true ∧ s.nHold + s.handed ≤ b

theorem bud_step {s s' : State} {e : Ev} (h : step s e = .ok s')
    (hD : ∀ g, s.dirty g = false → s.openResumers = 0) (hB : Bud s) : Bud s' := by
  revert h; fun_cases step s e <;> intro h <;> (first | (cases h; done) | (injection h with h; subst h))
  -- events that write none of `budget`, `openResumers`, `ws`, `nHold`, `handed`
  all_goals first | exact hB | skip
  all_goals intro b (hb : _ = some b)
  -- call of a resumer clears the budget
  case case72 => cases hb
  -- a plain Pause returns and sets the budget: g is not dirty, so no resumer is open; the status is quiet
  case case80 g _ _ _ _ _ _ _ hg =>
    cases hb
    simp only [Bool.and_eq_true, Bool.not_eq_true'] at hg
    exact ⟨hD g hg.1.1.2, hg.2, Nat.le_refl _⟩
  -- enter: the budget and `handed ≠ 0` lose one each
  case case37 g k _ hh =>
    obtain ⟨b, hb', rfl⟩ := Option.map_eq_some_iff.1 hb
    have ⟨h1, h2, h3⟩ := hB b hb'
    have := mt beq_iff_eq.2 hh
    exact ⟨h1, h2, by simp only; omega⟩
  all_goals have ⟨h1, h2, h3⟩ := hB b hb
  -- not while there is a budget: ldStatusD counts in `nHold` only under a non-quiet status; ret of a resumer needs an open one
  case case19 | case77 => exfalso; simp_all
  -- stStatus: no resumer is open, so the guard excludes `running` and `initiated`
  case case56 => have := @mayStore_cases; grind
  -- ldConcR, relD, send: `nHold ≠ 0` loses one, `handed` gains at most that one
  all_goals exact ⟨h1, h2, by have := mt beq_iff_eq.2 ‹_›; simp only; omega⟩

theorem reach_inv {s : State} (r : Reach s) : Inv1 s ∧ Inv s ∧ Bud s := by
  induction r with
  | init c => exact ⟨by refine ⟨?_, ?_, ?_, ?_, ?_⟩ <;> simp [Acc, init], by constructor <;> simp [init], by simp [Bud, init]⟩
  | step e _ h ih =>
    obtain ⟨i1, i, b⟩ := ih
    exact ⟨inv1_step h i1, inv_step h i1.acc i, bud_step h i.D b⟩

theorem reach_run {s s' : State} {evs : List Ev} (r : Reach s) (h : run s evs = .ok s') : Reach s' :=
  reach_of_run step run (fun _ => rfl) (fun s e _ => by cases h : step s e <;> simp only [run, h]) Reach.step r h

end Res
end VarmqVerif
