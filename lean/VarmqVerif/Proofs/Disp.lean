/-
  Theorems about the model `Disp` (Model/Disp.lean): execution order against hand-out order
  (dispatcher goroutine / pool goroutines of worker.go).

  The theorems for concurrency 1 assume `s.maxLim ≤ 1` of the state they speak of; `maxLim` only grows,
  so this says that the limit never exceeded 1 in the whole history.

  The order theorems rest on the clause `J.slack` of the invariant: for every j ∈ deqd,
  (waitingAhead s j).length + 1 ≤ maxLim.  It is inductive because
  the prefix of deqd before j is fixed once j is in deqd (deqd only grows at the end), entered and gone
  only grow (the filter only shrinks), maxLim only grows, and at the moment j is dequeued the jobs
  waiting ahead of it are among the fewer-than-maxLim jobs in flight.
-/
import VarmqVerif.Model.Disp
import VarmqVerif.Proofs.Guard

namespace VarmqVerif
namespace Disp

theorem filter_length_mono {α} {p q : α → Bool} (l : List α)
    (h : ∀ x ∈ l, p x = true → q x = true) : (l.filter p).length ≤ (l.filter q).length := by
  simpa [List.countP_eq_length_filter] using List.countP_mono_left h

theorem takeWhile_ne_append_of_mem {l : List Nat} {j : Nat} (m : List Nat) (h : j ∈ l) :
    (l ++ m).takeWhile (· != j) = l.takeWhile (· != j) := by
  induction l with
  | nil => cases h
  | cons a l ih =>
    by_cases ha : a = j
    · simp [ha]
    · simp [ha, ih ((List.mem_cons.mp h).resolve_left (Ne.symm ha))]

theorem takeWhile_ne_append_of_not_mem {l : List Nat} {j : Nat} (m : List Nat) (h : j ∉ l) :
    (l ++ m).takeWhile (· != j) = l ++ m.takeWhile (· != j) :=
  List.takeWhile_append_of_pos fun a ha => by simpa using fun e : a = j => h (e ▸ ha)

theorem mem_takeWhile_ne {l : List Nat} {i j : Nat} (h : i ∈ l.takeWhile (· != j)) :
    i ∈ l ∧ i ≠ j :=
  ⟨List.takeWhile_subset _ h, by simpa using List.all_eq_true.mp List.all_takeWhile i h⟩

theorem nodup_snoc {α} {l : List α} {j : α} (hnd : l.Nodup) (hj : j ∉ l) : (l ++ [j]).Nodup :=
  List.nodup_append.mpr ⟨hnd, List.pairwise_singleton _ _, fun _ ha _ hb e =>
    hj (List.mem_singleton.mp hb ▸ e ▸ ha)⟩

/-! ## What an accepted step says: the guards held (Proofs/Guard.lean) -/

theorem lim_ok {s s' : State} {n : Nat} (h : step s (.lim n) = .ok s') :
    s' = { s with maxLim := max s.maxLim n } := by
  cases h; rfl

theorem deq_ok {s s' : State} {j : Nat} (h : step s (.deq j) = .ok s') :
    j ∉ s.deqd ∧ (inflight s).length < s.maxLim ∧ s' = { s with deqd := s.deqd ++ [j] } := by
  simpa [step, eq_comm (a := s')] using h

theorem enter_ok {s s' : State} {j : Nat} (h : step s (.enter j) = .ok s') :
    j ∈ s.deqd ∧ j ∉ s.entered ∧ j ∉ s.gone ∧ s' = { s with entered := s.entered ++ [j] } := by
  simpa [step, eq_comm (a := s')] using h

theorem done_ok {s s' : State} {j : Nat} (h : step s (.done j) = .ok s') :
    j ∈ s.deqd ∧ j ∉ s.gone ∧ s' = { s with gone := s.gone ++ [j] } := by
  simpa [step, eq_comm (a := s')] using h

theorem deqd_ok {s s' : State} {e : Ev} (h : step s e = .ok s') :
    s'.deqd = s.deqd ++ (match e with | .deq j => [j] | _ => []) := by
  cases e
  · cases lim_ok h; simp
  · obtain ⟨_, _, rfl⟩ := deq_ok h; rfl
  · obtain ⟨_, _, _, rfl⟩ := enter_ok h; simp
  · obtain ⟨_, _, rfl⟩ := done_ok h; simp

structure J (s : State) : Prop where
  enteredNodup : s.entered.Nodup
  enteredSub : ∀ j ∈ s.entered, j ∈ s.deqd
  cap : (inflight s).length ≤ s.maxLim
  slack : ∀ j ∈ s.deqd, (waitingAhead s j).length + 1 ≤ s.maxLim

/-- The monotonicity that makes `J.slack` inductive. -/
theorem waitingAhead_anti (s s' : State) {j : Nat}
    (hd : s'.deqd.takeWhile (· != j) = s.deqd.takeWhile (· != j))
    (he : ∀ i ∈ s.entered, i ∈ s'.entered) (hg : ∀ i ∈ s.gone, i ∈ s'.gone) :
    (waitingAhead s' j).length ≤ (waitingAhead s j).length := by
  unfold waitingAhead
  rw [hd]
  apply filter_length_mono
  intro x _ hx
  simp at hx ⊢
  exact ⟨fun h => hx.1 (he x h), fun h => hx.2 (hg x h)⟩

theorem J_init : J init := by
  refine ⟨?_, ?_, ?_, ?_⟩ <;> simp [init, inflight]

theorem J_step {s s' : State} (e : Ev) (hJ : J s) (h : step s e = .ok s') : J s' := by
  obtain ⟨hen, hes, hcap, hsl⟩ := hJ
  cases e with
  | lim n =>
    cases lim_ok h
    exact ⟨hen, hes, Nat.le_trans hcap (Nat.le_max_left ..),
      fun j hj => Nat.le_trans (hsl j hj) (Nat.le_max_left ..)⟩
  | deq k =>
    obtain ⟨hk, hlt, rfl⟩ := deq_ok h
    refine ⟨hen, fun j hj => List.mem_append_left _ (hes j hj), ?_, fun j hj => ?_⟩
    · have := List.length_filter_le (fun i => !s.gone.contains i) [k]
      simp only [inflight, List.filter_append, List.length_append, List.length_singleton] at *
      omega
    · rcases List.mem_append.mp hj with h1 | h1
      · exact Nat.le_trans (Nat.succ_le_succ (waitingAhead_anti s _
          (takeWhile_ne_append_of_mem [k] h1) (fun _ h => h) (fun _ h => h))) (hsl j h1)
      · -- the new job: everybody waiting ahead of it is in flight
        obtain rfl := List.mem_singleton.mp h1
        refine Nat.succ_le_of_lt (Nat.lt_of_le_of_lt ?_ hlt)
        simp only [waitingAhead, takeWhile_ne_append_of_not_mem [j] hk, List.takeWhile_cons,
          bne_self_eq_false, Bool.false_eq_true, if_false, List.append_nil]
        exact filter_length_mono _ fun x _ hx => by simp at hx ⊢; exact hx.2
  | enter k =>
    obtain ⟨hkd, hke, -, rfl⟩ := enter_ok h
    exact ⟨nodup_snoc hen hke, List.forall_mem_append.mpr ⟨hes, List.forall_mem_singleton.mpr hkd⟩, hcap, fun j hj =>
      Nat.le_trans (Nat.succ_le_succ (waitingAhead_anti s _ rfl
        (fun _ h => List.mem_append_left _ h) (fun _ h => h))) (hsl j hj)⟩
  | done k =>
    obtain ⟨hkd, -, rfl⟩ := done_ok h
    refine ⟨hen, hes, ?_, fun j hj =>
      Nat.le_trans (Nat.succ_le_succ (waitingAhead_anti s _ rfl
        (fun _ h => h) (fun _ h => List.mem_append_left _ h))) (hsl j hj)⟩
    refine Nat.le_trans (filter_length_mono _ fun x _ hx => ?_) hcap
    simp at hx ⊢
    exact hx.1

theorem inv_reach {s : State} (h : Reach s) : J s := by
  induction h with
  | init => exact J_init
  | step e _ hs ih => exact J_step e ih hs

theorem inflight_le_limit {s : State} (h : Reach s) : (inflight s).length ≤ s.maxLim :=
  (inv_reach h).cap

/-- for every job that was handed out, at every later moment, at most maxLim − 1 of the jobs handed out
    before it are still waiting to start -/
theorem ahead_slack_deqd {s : State} (h : Reach s) {j : Nat} (hj : j ∈ s.deqd) :
    (waitingAhead s j).length + 1 ≤ s.maxLim :=
  (inv_reach h).slack j hj

/-- when job j enters the worker function, at most maxLim − 1 of the jobs handed out before it have
    not started yet -/
theorem ahead_slack {s s' : State} {j : Nat} (h : Reach s) (he : step s (.enter j) = .ok s') :
    (waitingAhead s j).length + 1 ≤ s.maxLim :=
  ahead_slack_deqd h (enter_ok he).1

theorem entered_subset_deqd {s : State} (h : Reach s) : ∀ j ∈ s.entered, j ∈ s.deqd :=
  (inv_reach h).enteredSub

theorem entered_nodup {s : State} (h : Reach s) : s.entered.Nodup :=
  (inv_reach h).enteredNodup

/-- the stable form of `ahead_slack`: for a job that has started -/
theorem ahead_slack_stable {s : State} (h : Reach s) {j : Nat} (hj : j ∈ s.entered) :
    (waitingAhead s j).length + 1 ≤ s.maxLim :=
  ahead_slack_deqd h (entered_subset_deqd h j hj)

/-- `ahead_slack_stable` spelled out without `waitingAhead` -/
theorem started_before_prefix {s : State} (h : Reach s) {i j : Nat}
    (_hij : i ∈ s.deqd.takeWhile (· != j)) (hj : j ∈ s.entered) :
    ((s.deqd.takeWhile (· != j)).filter
      (fun i => !s.entered.contains i && !s.gone.contains i)).length + 1 ≤ s.maxLim :=
  ahead_slack_stable h hj

/-- with concurrency 1 nobody handed out before a handed-out job j is still waiting -/
theorem serial_prefix {s : State} {j : Nat} (h : Reach s) (hl : s.maxLim ≤ 1) (hj : j ∈ s.deqd) :
    ∀ i ∈ s.deqd.takeWhile (· != j), i ∈ s.entered ∨ i ∈ s.gone := by
  have h1 := ahead_slack_deqd h hj
  have h2 : waitingAhead s j = [] := List.eq_nil_of_length_eq_zero (by omega)
  intro i hi
  have := List.filter_eq_nil_iff.mp h2 i hi
  simp at this
  exact Decidable.or_iff_not_imp_left.2 this

/-- with concurrency 1, every job handed out before j has started (or was skipped) before j starts -/
theorem serial_order {s s' : State} {j : Nat} (h : Reach s) (hl : s.maxLim ≤ 1)
    (he : step s (.enter j) = .ok s') :
    ∀ i ∈ s.deqd.takeWhile (· != j), i ∈ s.entered ∨ i ∈ s.gone :=
  serial_prefix h hl (enter_ok he).1

/-- With concurrency 1 the execution order is the hand-out order.  The second clause carries the
    induction: a dequeue needs an empty `inflight`, so every handed-out job but the last is gone, and
    the job that enters the worker function is that last one. -/
theorem serial_inv {s : State} (h : Reach s) (hl : s.maxLim ≤ 1) :
    s.entered.Sublist s.deqd ∧ ∀ i ∈ s.deqd.dropLast, i ∈ s.gone := by
  induction h with
  | init => simp [init]
  | @step s s' e hr hs ih =>
    cases e with
    | lim n =>
      cases lim_ok hs
      exact ih (Nat.le_trans (Nat.le_max_left ..) hl)
    | deq k =>
      obtain ⟨_, hlt, rfl⟩ := deq_ok hs
      refine ⟨(ih hl).1.trans (List.sublist_append_left ..), fun i hi => ?_⟩
      have h0 : inflight s = [] := List.eq_nil_of_length_eq_zero (by have : s.maxLim ≤ 1 := hl; omega)
      simpa using List.filter_eq_nil_iff.mp h0 i (by simpa using hi)
    | done k =>
      obtain ⟨_, _, rfl⟩ := done_ok hs
      exact ⟨(ih hl).1, fun i hi => List.mem_append_left _ ((ih hl).2 i hi)⟩
    | enter k =>
      obtain ⟨hkd, hke, hkg, rfl⟩ := enter_ok hs
      obtain ⟨hsub, hgone⟩ := ih hl
      refine ⟨?_, hgone⟩
      show (s.entered ++ [k]).Sublist s.deqd
      -- `k` is not gone, so it is the last of `deqd`; `entered` lacks it, so it lies in the rest
      rcases List.eq_nil_or_concat s.deqd with h0 | ⟨pre, b, h0⟩ <;> rw [h0] at hkd hsub hgone ⊢
      · cases hkd
      · simp only [List.concat_eq_append, List.dropLast_concat] at hkd hsub hgone ⊢
        obtain rfl : k = b := by
          rcases List.mem_append.mp hkd with h1 | h1
          · exact absurd (hgone k h1) hkg
          · exact List.mem_singleton.mp h1
        have h1 := hsub.filter (· != k)
        rw [List.filter_eq_self.mpr (by simpa using fun a ha (e : a = k) => hke (e ▸ ha))] at h1
        exact (h1.trans (by simp)).append (.refl _)

theorem serial_is_handout_order {s : State} (h : Reach s) (hl : s.maxLim ≤ 1) :
    s.entered.Sublist s.deqd :=
  (serial_inv h hl).1

theorem reach_run {s s' : State} {es : List Ev} (h : Reach s) (hrun : run s es = .ok s') :
    Reach s' :=
  reach_of_run step run (fun _ => rfl) (fun s e _ => by cases h : step s e <;> simp only [run, h]) Reach.step h hrun

def accepted : Except String State → Bool
  | .ok _ => true
  | .error _ => false

def stateOf : Except String State → Option State
  | .ok s => some s
  | .error _ => none

/-- (a) with limit 2 job 2 may start before job 1; when it does, job 1 is the one job waiting ahead -/
example : accepted (run init [.lim 2, .deq 1, .deq 2, .enter 2, .enter 1]) = true := by
  decide

example : (stateOf (run init [.lim 2, .deq 1, .deq 2])).map (waitingAhead · 2) = some [1] := by
  decide

example : (stateOf (run init [.lim 2, .deq 1, .deq 2, .enter 2, .enter 1])).map (·.entered) =
    some [2, 1] := by
  decide

/-- (b) a third dequeue with two jobs in flight is rejected -/
example : accepted (run init [.lim 2, .deq 1, .deq 2]) = true ∧
    accepted (run init [.lim 2, .deq 1, .deq 2, .deq 3]) = false := by
  decide

/-- (c) limit 1: no second dequeue while the first job is in flight; one after the other is fine -/
example : accepted (run init [.lim 1, .deq 1, .deq 2]) = false := by
  decide

example : (stateOf (run init [.lim 1, .deq 1, .enter 1, .done 1, .deq 2, .enter 2])).map (·.entered) =
    some [1, 2] := by
  decide

/-- (d) entering the worker function without a dequeue is rejected -/
example : accepted (run init [.lim 1, .enter 1]) = false ∧
    accepted (run init [.lim 2, .deq 1, .enter 2]) = false := by
  decide

/-- (e) a skipped job: its slot is given back without it having started; it cannot start afterwards -/
example : accepted (run init [.lim 1, .deq 1, .done 1, .deq 2, .enter 2]) = true ∧
    accepted (run init [.lim 1, .deq 1, .done 1, .deq 2, .enter 2, .enter 1]) = false ∧
    accepted (run init [.lim 1, .deq 1, .done 1, .enter 1]) = false := by
  decide

/-- the limit-1 theorems are about reachable states: a state with limit 1 and two started jobs -/
example : ∃ s, Reach s ∧ s.maxLim ≤ 1 ∧ s.entered = [1, 2] ∧ s.deqd = [1, 2] :=
  ⟨{ maxLim := 1, deqd := [1, 2], entered := [1, 2], gone := [1] },
    reach_run (es := [.lim 1, .deq 1, .enter 1, .done 1, .deq 2, .enter 2]) Reach.init rfl,
    by decide, rfl, rfl⟩

end Disp
end VarmqVerif

#print axioms VarmqVerif.Disp.inv_reach
#print axioms VarmqVerif.Disp.inflight_le_limit
#print axioms VarmqVerif.Disp.ahead_slack
#print axioms VarmqVerif.Disp.ahead_slack_deqd
#print axioms VarmqVerif.Disp.ahead_slack_stable
#print axioms VarmqVerif.Disp.started_before_prefix
#print axioms VarmqVerif.Disp.serial_order
#print axioms VarmqVerif.Disp.serial_is_handout_order
#print axioms VarmqVerif.Disp.entered_subset_deqd
#print axioms VarmqVerif.Disp.entered_nodup
#print axioms VarmqVerif.Disp.reach_run
