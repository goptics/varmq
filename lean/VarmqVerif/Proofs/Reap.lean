/-
  Theorems about the model `Reap` (Model/Reap.lean): the pool under an idle-worker expiry.  `Reach false` is
  the current code, `Reach true` the reaper before fix b9eba0f.

  Why the reaper never takes the last worker: it removes only candidates of its pass; a pass that has a
  candidate has a protected node, which is not a candidate (`Pass.WF`); and the protected nodes of the live
  pass are still idle or out (`J.spared`: nobody but the reaper takes a node out of the pool for good while
  the run lasts).
-/
import VarmqVerif.Model.Reap
import VarmqVerif.Proofs.Guard

namespace VarmqVerif
namespace Reap

/-- a snapshot split at a positive target: what a pass is, whatever happens to the pool afterwards -/
structure Pass.WF (p : Pass) : Prop where
  nodup : p.prot.Nodup
  disj : ∀ x ∈ p.cand, x ∉ p.prot
  prot : p.cand ≠ [] → p.prot ≠ []

theorem Pass.wf_split {l : List Nat} (hn : l.Nodup) {t : Nat} (ht : t ≠ 0) : Pass.WF ⟨l.take t, l.drop t⟩ := by
  rw [← List.take_append_drop t l, List.nodup_append] at hn
  refine ⟨hn.1, fun x hd ht => hn.2.2 x ht x hd rfl, fun hd h => ?_⟩
  rcases List.take_eq_nil_iff.mp h with h0 | h0
  · exact ht h0
  · subst h0
    simp at hd

structure J (s : State) : Prop where
  nodup : (s.idle ++ s.out).Nodup
  dead : s.live = false → s.pass = none
  fed : s.running = true → s.idle ≠ [] ∨ s.out ≠ []
  wf : ∀ p, s.pass = some p → p.WF
  spared : s.running = true → ∀ p, s.pass = some p → ∀ x ∈ p.prot, x ∈ s.idle ++ s.out

theorem J_step {s s' : State} (e : Ev) (hJ : J s) (h : step false s e = .ok s') : J s' := by
  obtain ⟨hnd, hdead, hfed, hwf, hsp⟩ := hJ
  revert h
  fun_cases step false s e <;> rintro ⟨⟩
  -- the branches of `old = true`: snap and rmv by the reaper of an ended run
  case case16 => contradiction
  case case24 r n ok _ _ hold _ => simp at hold
  -- snap by the reaper of an ended run
  case case17 => exact ⟨hnd, hdead, hfed, hwf, hsp⟩
  case case4 n _ hl hn => -- start
    simp at hl hn
    have hp : (s.idle ++ [n] ++ s.out).Perm (n :: (s.idle ++ s.out)) := by simp
    exact ⟨hp.nodup_iff.2 (by simp [hn, hnd]), by simp, by simp, hwf, by simp [hdead hl]⟩
  case case7 n hlast _ => -- take
    simp at hlast
    obtain ⟨ys, hys⟩ := List.getLast?_eq_some_iff.1 hlast
    simp only [hys, List.dropLast_concat, List.append_assoc, List.singleton_append] at *
    exact ⟨hnd, hdead, by simp, hwf, hsp⟩
  case case9 n hn => -- create
    simp at hn
    have hp : (s.idle ++ n :: s.out).Perm (n :: (s.idle ++ s.out)) := List.perm_middle
    exact ⟨hp.nodup_iff.2 (by simpa [hn] using hnd), hdead, by simp, hwf,
      fun hr p hq x hx => hp.mem_iff.2 (List.mem_cons_of_mem _ (hsp hr p hq x hx))⟩
  case case12 n ho _ => -- back
    simp at ho
    have hp : (s.idle ++ [n] ++ s.out.erase n).Perm (s.idle ++ s.out) := by
      simpa using (List.perm_cons_erase ho).symm.append_left s.idle
    exact ⟨hp.nodup_iff.2 hnd, hdead, by simp, hwf, fun hr p hq x hx => hp.mem_iff.2 (hsp hr p hq x hx)⟩
  case case15 r t ht _ hcur => -- snap by the live reaper
    simp at ht hcur
    exact ⟨hnd, by simp [hcur.2], hfed, by simpa using Pass.wf_split (List.nodup_append.1 hnd).1 ht,
      by simpa using fun _ x hx => Or.inl (List.mem_of_mem_take hx)⟩
  case case21 r n ok _ _ p hp hc => -- rmv by the live reaper
    simp at hc
    -- a protected node is not the candidate `n`, so it stays where it was
    have hx : s.running = true → ∀ x ∈ p.prot, x ∈ s.idle.erase n ++ s.out := fun hr x hx => by
      have hne : x ≠ n := fun e => (hwf p hp).disj n hc (e ▸ hx)
      simpa [List.mem_erase_of_ne hne] using hsp hr p hp x hx
    refine ⟨hnd.sublist (List.erase_sublist.append_right _), hdead, fun hr => ?_, hwf,
      fun hr q hq => by cases hp.symm.trans hq; exact hx hr⟩
    obtain ⟨x, hxp⟩ := List.exists_mem_of_ne_nil _ ((hwf p hp).prot (List.ne_nil_of_mem hc))
    exact (List.mem_append.1 (hx hr x hxp)).imp List.ne_nil_of_mem List.ne_nil_of_mem
  case case25 => exact ⟨hnd, by simp, hfed, by simp, by simp⟩ -- kill
  case case27 => exact ⟨hnd, hdead, by simp, hwf, by simp⟩ -- stopAll
  case case30 n ok hr _ => -- stopRmv
    simp at hr
    exact ⟨hnd.sublist (List.erase_sublist.append_right _), hdead, by simp [hr], hwf, by simp [hr]⟩

theorem inv_reach {s : State} (h : Reach false s) : J s := by
  induction h with
  | init => constructor <;> simp [init]
  | step e _ hs ih => exact J_step e ih hs

theorem never_empty_handed {s : State} (h : Reach false s) (hr : s.running = true) :
    s.idle ≠ [] ∨ s.out ≠ [] :=
  (inv_reach h).fed hr

theorem idle_worker_kept {s : State} (h : Reach false s) (hr : s.running = true)
    (hq : s.out = []) : 1 ≤ s.idle.length :=
  List.length_pos_iff.2 (((inv_reach h).fed hr).resolve_right (· hq))

theorem reaper_spares_protected {s : State} {p : Pass} (h : Reach false s) (hr : s.running = true)
    (_hl : s.live = true) (hp : s.pass = some p) : ∀ x ∈ p.prot, x ∈ s.idle ∨ x ∈ s.out :=
  fun x hx => List.mem_append.1 ((inv_reach h).spared hr p hp x hx)

theorem pass_wellformed {s : State} {p : Pass} (h : Reach false s) (hr : s.running = true)
    (hl : s.live = true) (hp : s.pass = some p) :
    (∀ x ∈ p.cand, x ∉ p.prot) ∧ (p.cand ≠ [] → p.prot ≠ []) :=
  ⟨((inv_reach h).wf p hp).disj, ((inv_reach h).wf p hp).prot⟩

/-- what a step of the reaper of run `r` is: only in the current run, while its stop channel is open, and only on
    a candidate of its pass -/
theorem step_rmv {s s' : State} {r n : Nat} {ok : Bool} (h : step false s (.rmv r n ok) = .ok s') :
    r = s.gen ∧ s.live = true ∧ ∃ p, s.pass = some p ∧ n ∈ p.cand ∧ s'.idle = s.idle.erase n := by
  simp [step] at h
  obtain ⟨-, ⟨hr, hl⟩, h⟩ := h
  split at h
  · cases h
  · rename_i p hp
    simp at h
    obtain ⟨hc, rfl⟩ := h
    exact ⟨hr, hl, p, hp, hc, rfl⟩

theorem reaper_removes_only_beyond_target {s s' : State} {r n : Nat}
    (h : step false s (.rmv r n true) = .ok s') :
    r = s.gen ∧ s.live = true ∧ ∃ p, s.pass = some p ∧ n ∈ p.cand ∧ s'.idle = s.idle.erase n :=
  step_rmv h

/-- the stop-channel check of fix b9eba0f: the reaper of an ended run (or of a run whose stop channel
    is closed) removes nothing, whatever Remove would have returned -/
theorem ended_run_cannot_remove {s : State} {r n : Nat} {ok : Bool}
    (hne : r ≠ s.gen ∨ s.live = false) : ∀ s', step false s (.rmv r n ok) ≠ .ok s' := by
  intro s' h
  obtain ⟨hr, hl, -⟩ := step_rmv h
  simp [hr, hl] at hne

theorem snapshot_split {s s' : State} {t : Nat} (hl : s.live = true)
    (h : step false s (.snap s.gen t) = .ok s') :
    1 ≤ t ∧ s'.pass = some { prot := s.idle.take t, cand := s.idle.drop t } := by
  simp [step, hl] at h
  obtain ⟨ht, rfl⟩ := h
  exact ⟨by omega, rfl⟩

theorem idle_nodup {s : State} (h : Reach false s) : s.idle.Nodup :=
  (List.nodup_append.1 (inv_reach h).nodup).1

theorem out_nodup {s : State} (h : Reach false s) : s.out.Nodup :=
  (List.nodup_append.1 (inv_reach h).nodup).2.1

theorem idle_out_disjoint {s : State} (h : Reach false s) : ∀ x ∈ s.idle, x ∉ s.out :=
  fun x hi ho => (List.nodup_append.1 (inv_reach h).nodup).2.2 x hi x ho rfl

/-- while a pass of the live reaper is under way, at least as many workers are alive (idle or out with a job) as the
    pass protects: the first min(numMinIdleWorkers(), snapshot length) nodes of its snapshot -/
theorem reaper_keeps_minimum {s : State} {p : Pass} (h : Reach false s) (hr : s.running = true) (_hl : s.live = true)
    (hp : s.pass = some p) : p.prot.length ≤ s.idle.length + s.out.length := by
  simpa using ((inv_reach h).wf p hp).nodup.length_le_of_subset ((inv_reach h).spared hr p hp)

theorem snapshot_protects_min {s s' : State} {t : Nat} (hl : s.live = true) (h : step false s (.snap s.gen t) = .ok s') :
    ∃ p, s'.pass = some p ∧ p.prot.length = min t s.idle.length :=
  ⟨_, (snapshot_split hl h).2, List.length_take⟩

theorem reach_run {old : Bool} {s s' : State} {es : List Ev} (h : Reach old s)
    (hrun : run old s es = .ok s') : Reach old s' :=
  reach_of_run (step old) (run old) (fun _ => rfl) (fun s e _ => by cases h : step old s e <;> simp only [run, h])
    Reach.step h hrun

/-- the run that empties the pool with the old reaper: the reaper of run 0 snapshots [1, 2]
    with target 1, the pool is stopped and started again with node 2 (recycled through the cache) as its
    only idle worker, and the reaper of run 0 — which never looks at its stop channel — removes it -/
def oldRun : List Ev :=
  [.start 1, .take 1, .create 2, .back 1, .back 2, .snap 0 1, .kill, .stopAll, .stopRmv 1 true, .stopRmv 2 true,
   .start 2, .rmv 0 2 true]

/-- the defect of the old reaper: a running pool with nobody out and an empty idle list -/
theorem old_reaper_can_empty_the_pool :
    ∃ s, Reach true s ∧ s.running = true ∧ s.out = [] ∧ s.idle = [] :=
  ⟨_, reach_run Reach.init (es := oldRun) rfl, rfl, rfl, rfl⟩

def accepted : Except String State → Bool
  | .ok _ => true
  | .error _ => false

def stateOf : Except String State → Option State
  | .ok s => some s
  | .error _ => none

/-- `oldRun` is accepted only by the old code: the current code rejects its last step -/
example : accepted (run true init oldRun) = true ∧ accepted (run false init oldRun) = false := by
  decide

example : accepted (run false init oldRun.dropLast) = true := by
  decide

/-- a live pass with a protected node and a candidate -/
def passRun : List Ev := [.start 1, .take 1, .create 2, .back 1, .back 2, .snap 0 1]

def passEnd : State :=
  { running := true, idle := [1, 2], out := [], gen := 0, live := true,
    pass := some { prot := [1], cand := [2] }, stale := [] }

theorem passRun_ok : run false init passRun = .ok passEnd := by
  rfl

example : ∃ s p, Reach false s ∧ s.running = true ∧ s.live = true ∧ s.pass = some p ∧
    p.prot ≠ [] ∧ p.cand ≠ [] :=
  ⟨passEnd, { prot := [1], cand := [2] }, reach_run Reach.init passRun_ok, rfl, rfl, rfl,
    by decide, by decide⟩

/-- … the pass protects one node (target 1) and two workers are alive: `reaper_keeps_minimum` is not vacuous -/
example : ∃ s p, Reach false s ∧ s.running = true ∧ s.live = true ∧ s.pass = some p ∧
    p.prot.length = 1 ∧ s.idle.length + s.out.length = 2 :=
  ⟨passEnd, { prot := [1], cand := [2] }, reach_run Reach.init passRun_ok, rfl, rfl, rfl, rfl, rfl⟩

example : (1 : Nat) ≤ passEnd.idle.length + passEnd.out.length :=
  reaper_keeps_minimum (p := { prot := [1], cand := [2] }) (reach_run Reach.init passRun_ok) rfl rfl rfl

/-- … and the snapshot of `passEnd` (target 1 on an idle list of 2) protects min 1 2 = 1 node -/
example : ∃ p, passEnd.pass = some p ∧ p.prot.length = min 1 2 :=
  snapshot_protects_min (s := { passEnd with pass := none }) (t := 1) rfl rfl

/-- … the candidate may be removed, which leaves the protected node idle -/
example : (stateOf (step false passEnd (.rmv 0 2 true))).map (·.idle) = some [1] := by
  decide

/-- … the protected node may not, and neither may a node outside the snapshot -/
example : accepted (step false passEnd (.rmv 0 1 true)) = false ∧
    accepted (step false passEnd (.rmv 0 3 false)) = false := by
  decide

/-- after `kill` the reaper of run 0 removes nothing -/
example : accepted (run false init (passRun ++ [.kill])) = true ∧
    accepted (run false init (passRun ++ [.kill, .rmv 0 2 true])) = false ∧
    accepted (run false init (passRun ++ [.kill, .rmv 0 2 false])) = false ∧
    accepted (run false init (passRun ++ [.kill, .rmv 1 2 true])) = false := by
  decide

end Reap
end VarmqVerif

#print axioms VarmqVerif.Reap.inv_reach
#print axioms VarmqVerif.Reap.never_empty_handed
#print axioms VarmqVerif.Reap.idle_worker_kept
#print axioms VarmqVerif.Reap.reaper_spares_protected
#print axioms VarmqVerif.Reap.reaper_removes_only_beyond_target
#print axioms VarmqVerif.Reap.ended_run_cannot_remove
#print axioms VarmqVerif.Reap.snapshot_split
#print axioms VarmqVerif.Reap.idle_nodup
#print axioms VarmqVerif.Reap.reaper_keeps_minimum
#print axioms VarmqVerif.Reap.snapshot_protects_min
#print axioms VarmqVerif.Reap.old_reaper_can_empty_the_pool
