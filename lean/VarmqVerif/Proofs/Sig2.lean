/-
  Theorems about the wake-up protocol model `Sig2` (Model/Sig2.lean): no lost wake-up across
  Stop / Restart (several signal channels, several event loops), for every reachable state (any number of
  goroutines, channels, event loops, events).  The token that counts is the one on the CURRENT channel; the
  event loop that covers a dispatchable state may be one of a previous run, listening on a closed channel;
  `stale_cur_covered` is clause (B) of Proofs/SigLemmas.lean in the form that is true here.
  The inductive invariant is `Inv` in Proofs/Sig2Lemmas.lean (`reach_inv`).
-/
import VarmqVerif.Proofs.Sig2Lemmas

namespace VarmqVerif
namespace Sig2

def tokCurB (s : State) : Bool :=
  match s.chan with
  | some ch => s.tok ch
  | none => false

def listeningB (s : State) : Bool :=
  match s.chan with
  | some ch => !s.closed ch && liveOn s ch
  | none => false

def quietB (s : State) : Bool := s.ds.all (fun d => !(s.dph d).willEval)

theorem tokCurB_iff {s : State} : tokCurB s = true ↔ TokCur s := by
  cases hc : s.chan <;> simp [tokCurB, TokCur, hc]

theorem tokCur_of_tokCurB {s : State} (h : tokCurB s = true) : TokCur s := tokCurB_iff.mp h

theorem not_tokCur_of_tokCurB {s : State} (h : tokCurB s = false) : ¬ TokCur s :=
  fun ht => Bool.false_ne_true (h.symm.trans (tokCurB_iff.mpr ht))

theorem listeningB_iff {s : State} : listeningB s = true ↔ Listening s := by
  cases hc : s.chan <;> simp [listeningB, Listening, hc, liveOn_iff]

theorem listening_of_listeningB {s : State} (h : listeningB s = true) : Listening s := listeningB_iff.mp h

/-- `State` has function fields, so it has no `DecidableEq`: the examples compare this projection.
    `loops` lists ⟨d, phase of d, channel of d⟩ for the goroutines started as event loops, the most
    recent first. -/
structure View where
  ws : Nat
  cur : Nat
  conc : Nat
  qlen : Nat
  chan : Option Nat
  tokCur : Bool
  nOwes : Nat
  loops : List (Nat × DPh × Nat)
  listening : Bool
  quiet : Bool
  deriving DecidableEq, Repr

def view (s : State) : View :=
  ⟨s.ws, s.cur, s.conc, s.qlen, s.chan, tokCurB s, s.nOwes, s.ds.map (fun d => (d, s.dph d, s.dch d)),
   listeningB s, quietB s⟩

def runProj {α : Type} (f : State → α) (c : Nat) (evs : List Ev) : Option α :=
  match run (init c) evs with
  | .ok s => some (f s)
  | .error _ => none

theorem reach_of_view {c : Nat} {evs : List Ev} {ws cur conc qlen nOwes : Nat} {chan : Option Nat}
    {tc li qu : Bool} {loops : List (Nat × DPh × Nat)}
    (h : runProj view c evs = some ⟨ws, cur, conc, qlen, chan, tc, nOwes, loops, li, qu⟩) :
    ∃ s, Reach s ∧ s.ws = ws ∧ s.cur = cur ∧ s.conc = conc ∧ s.qlen = qlen ∧ s.chan = chan ∧
      tokCurB s = tc ∧ s.nOwes = nOwes ∧ listeningB s = li ∧ quietB s = qu ∧
      s.ds.map (fun d => (d, s.dph d, s.dch d)) = loops := by
  unfold runProj at h
  split at h
  · next s hs =>
    simp only [Option.some.injEq, view, View.mk.injEq] at h
    obtain ⟨h1, h2, h3, h4, h5, h6, h7, h8, h9, h10⟩ := h
    exact ⟨s, reach_run (.init c) evs hs, h1, h2, h3, h4, h5, h6, h7, h9, h10, h8⟩
  · cases h

-- the examples name a reachable state by its run, `reach_run (.init c) evs rfl`, and `decide` what they claim of it
instance (s : State) : Decidable (Dispatchable s) := inferInstanceAs (Decidable (_ ∧ _))
instance (s : State) : Decidable (TokCur s) := decidable_of_iff _ tokCurB_iff
instance (s : State) : Decidable (Listening s) := decidable_of_iff _ listeningB_iff

/-- conc = 1.  Start (make the channel, start event loop 10, store `running`, notify), an Add
    (enq + notify), the loop wakes and dispatches the job. -/
def exStart : List Ev := [
  .makeSig 1 100, .spawnD 1 10, .stStatus 1 running, .notify 1 true,
  .enq 5, .notify 5 false,
  .recvTok 10, .dStatus 10 running, .dCur 10 0, .dConc 10 1, .dLen 10 1, .dCasOk 10, .dDeq 10,
  .dStatus 10 running, .dCur 10 1, .dConc 10 1, .dCur 10 1]

example : exStart.length = 17 := rfl
-- 4: started, the token of Start's notify() is in channel 100, loop 10 parked on it
example : runProj view 1 (exStart.take 4) = some ⟨1, 0, 1, 0, some 100, true, 0, [(10, .parked, 100)], true, true⟩ := by decide
-- 5: dispatchable; token and an owed notify()
example : runProj view 1 (exStart.take 5) = some ⟨1, 0, 1, 1, some 100, true, 1, [(10, .parked, 100)], true, true⟩ := by decide
-- 6: dispatchable; only the token covers it
example : runProj view 1 (exStart.take 6) = some ⟨1, 0, 1, 1, some 100, true, 0, [(10, .parked, 100)], true, true⟩ := by decide
-- 7: dispatchable; only the woken event loop covers it
example : runProj view 1 (exStart.take 7) = some ⟨1, 0, 1, 1, some 100, false, 0, [(10, .fresh, 100)], true, false⟩ := by decide
-- 17: asleep, saturated
example : runProj view 1 exStart = some ⟨1, 1, 1, 0, some 100, false, 0, [(10, .parked, 100)], true, true⟩ := by decide

/-- conc = 1.  Start; event loop 10 wakes and has evaluated IsRunning() (6) when Stop stores
    `stopped` and closes channel 100 (7, 8).  An Add during the stop: its notify() finds the nil
    channel and is swallowed (9, 10).  Restart makes channel 101, starts event loop 11, stores
    `running` and notifies (11–14).  Loop 10 of the first run is still in the middle of its
    activation, on the closed channel. -/
def exRestart : List Ev := [
  .makeSig 1 100, .spawnD 1 10, .stStatus 1 running, .notify 1 true,
  .recvTok 10, .dStatus 10 running,
  .stStatus 2 stopped, .closeSig 2,
  .enq 5, .notify 5 false,
  .makeSig 3 101, .spawnD 3 11, .stStatus 3 running, .notify 3 true]

example : exRestart.length = 14 := rfl
-- 8: stopped, nil channel, nobody listens
example : runProj view 1 (exRestart.take 8) = some ⟨3, 0, 1, 0, none, false, 0, [(10, .sawRunning, 100)], false, false⟩ := by decide
-- 10: the Add's notify() was swallowed by the nil channel: a job is pending, no token, nothing owed
--     (not dispatchable: the worker is not running)
example : runProj view 1 (exRestart.take 10) = some ⟨3, 0, 1, 1, none, false, 0, [(10, .sawRunning, 100)], false, false⟩ := by decide
-- 13: running again, dispatchable: Restart's owed notify() covers it (and old loop 10)
example : runProj view 1 (exRestart.take 13) = some ⟨1, 0, 1, 1, some 101, false, 1, [(11, .parked, 101), (10, .sawRunning, 100)], true, false⟩ := by decide
-- 14: the token is on the new channel 101, new loop 11 listens; old loop 10 mid-activation on 100
example : runProj view 1 exRestart = some ⟨1, 0, 1, 1, some 101, true, 0, [(11, .parked, 101), (10, .sawRunning, 100)], true, false⟩ := by decide

/-- `exRestart`, then the old loop 10 finishes its activation: it dispatches the pending job itself
    (it reads the state of the second run), parks, finds its channel closed and ends; loop 11 takes
    the token, finds the pool saturated and parks. -/
def exRestartOldEnds : List Ev := exRestart ++ [
  .dCur 10 0, .dConc 10 1, .dLen 10 1, .dCasOk 10, .dDeq 10,
  .dStatus 10 running, .dCur 10 1, .dConc 10 1, .dCur 10 1, .recvClosed 10,
  .recvTok 11, .dStatus 11 running, .dCur 11 1, .dConc 11 1, .dCur 11 1]

example : exRestartOldEnds.length = 29 := rfl
example : runProj view 1 (exRestartOldEnds.take 24) = some ⟨1, 1, 1, 0, some 101, true, 0, [(11, .parked, 101), (10, .none, 100)], true, true⟩ := by decide
example : runProj view 1 exRestartOldEnds = some ⟨1, 1, 1, 0, some 101, false, 0, [(11, .parked, 101), (10, .none, 100)], true, true⟩ := by decide

-- rejected: a second channel while one is current; a channel id reused; close / replace while running
example : runProj view 1 [.makeSig 1 100, .makeSig 1 101] = none := by decide
example : runProj view 1 [.makeSig 1 100, .closeSig 1, .makeSig 1 100] = none := by decide
example : runProj view 1 [.makeSig 1 100, .spawnD 1 10, .stStatus 1 running, .closeSig 2] = none := by decide
-- … an event loop started on the nil channel; `running` stored without a channel / without a loop on it
example : runProj view 1 [.spawnD 1 10] = none := by decide
example : runProj view 1 [.stStatus 1 running] = none := by decide
example : runProj view 1 [.makeSig 1 100, .stStatus 1 running] = none := by decide
example : runProj view 1 [.makeSig 1 100, .spawnD 1 10, .closeSig 1, .makeSig 1 101, .stStatus 1 running] = none := by decide
-- … `for range` ends on an open channel, or on a closed one that still holds a token; a send on nil
example : runProj view 1 [.makeSig 1 100, .spawnD 1 10, .recvClosed 10] = none := by decide
example : runProj view 1 [.makeSig 1 100, .spawnD 1 10, .notify 1 true, .closeSig 1, .recvClosed 10] = none := by decide
example : runProj view 1 [.notify 1 true] = none := by decide
-- accepted: the token left in a closed channel is received, then the loop ends
example : runProj view 1 [.makeSig 1 100, .spawnD 1 10, .notify 1 true, .closeSig 1, .recvTok 10, .dStatus 10 0, .dCur 10 0, .recvClosed 10]
    = some ⟨0, 0, 1, 0, none, false, 0, [(10, .none, 100)], false, true⟩ := by decide

theorem closed_never_current {s : State} (hr : Reach s) {ch : Nat} (h : s.chan = some ch) : s.closed ch = false :=
  ((reach_inv hr).ch.1 ch h).1

theorem current_made {s : State} (hr : Reach s) {ch : Nat} (h : s.chan = some ch) : s.made ch = true :=
  ((reach_inv hr).ch.1 ch h).2

theorem closed_made {s : State} (hr : Reach s) {ch : Nat} (h : s.closed ch = true) : s.made ch = true :=
  (reach_inv hr).ch.2 ch h

theorem loop_registered {s : State} (hr : Reach s) {d : Nat} (h : s.dph d ≠ .none) :
    d ∈ s.ds ∧ s.made (s.dch d) = true :=
  (reach_inv hr).d d h

theorem willEval_mem_ds {s : State} (hr : Reach s) {d : Nat} (h : (s.dph d).willEval = true) : d ∈ s.ds :=
  (loop_registered hr fun hn => by simp [hn, DPh.willEval] at h).1

theorem quiet_of_quietB {s : State} (hr : Reach s) (h : quietB s = true) : ∀ d, (s.dph d).willEval = false :=
  fun d => Bool.eq_false_iff.mpr fun hd => by simpa [hd] using List.all_eq_true.mp h d (willEval_mem_ds hr hd)

-- non-vacuity: a closed channel and a current one
example : ∃ s, Reach s ∧ s.chan = some 101 ∧ s.closed 100 = true ∧ s.closed 101 = false :=
  ⟨_, reach_run (.init 1) exRestart rfl, by decide⟩

theorem running_listening {s : State} (hr : Reach s) (hw : s.ws = running) : Listening s :=
  (reach_inv hr).l hw

theorem running_chan {s : State} (hr : Reach s) (hw : s.ws = running) : s.chan.isSome = true := by
  obtain ⟨ch, hc, _⟩ := running_listening hr hw
  simp [hc]

-- non-vacuity: running after a Restart (second channel, second event loop)
example : ∃ s, Reach s ∧ s.ws = running ∧ s.chan = some 101 ∧ Listening s ∧ s.closed 100 = true :=
  ⟨_, reach_run (.init 1) exRestart rfl, by decide⟩

-- … and not listening while stopped (the hypothesis ws = running is needed)
example : ∃ s, Reach s ∧ s.ws = stopped ∧ ¬ Listening s :=
  ⟨_, reach_run (.init 1) (exRestart.take 8) rfl, by decide⟩

/-- The invariant itself (clause (W)): the event loop that covers a dispatchable state does not hold a
    loaded value of `cur` above the current one (so that, in this state, it will not leave on account of a
    stale `cur`). -/
theorem no_lost_wakeup_strong {s : State} (hr : Reach s) (hd : Dispatchable s) :
    TokCur s ∨ 0 < s.nOwes ∨ ∃ d, (s.dph d).willEval = true ∧ ∀ c, s.dph d = .sawCur c → c ≤ s.cur :=
  (reach_inv hr).w hd

/-- `Sig.no_lost_wakeup` (C03) across Stop / Restart: the token must be on the current channel; the event
    loop may be any that is in the middle of an activation, also one of a previous run. -/
theorem no_lost_wakeup {s : State} (hr : Reach s) (hd : Dispatchable s) :
    TokCur s ∨ 0 < s.nOwes ∨ ∃ d, (s.dph d).willEval = true :=
  (no_lost_wakeup_strong hr hd).imp_right (.imp_right fun ⟨d, h, _⟩ => ⟨d, h⟩)

/-- `Sig.stale_cur_covered` for several event loops: in dispatchable states only (`exStaleSwallowed`), and
    what covers the stale `cur` may be ANOTHER event loop that will evaluate. -/
theorem stale_cur_covered {s : State} {d c : Nat} (hr : Reach s) (hd : Dispatchable s)
    (hp : s.dph d = .sawCur c) (hc : s.cur < c) :
    TokCur s ∨ 0 < s.nOwes ∨ ∃ d', d' ≠ d ∧ (s.dph d').willEval = true :=
  (no_lost_wakeup_strong hr hd).imp_right (.imp_right fun ⟨d', h1, h2⟩ =>
    ⟨d', fun he => Nat.not_le.mpr hc (h2 c (he ▸ hp)), h1⟩)

/-- The hypothesis `Dispatchable s` of `stale_cur_covered` cannot be dropped (with one event loop and
    one channel it could: clause (B) of Proofs/SigLemmas.lean).  Event loop 10 holds the loaded
    cur = 1; a runner releases (cur = 0, it owes a notify()); Stop closes the channel; the runner's
    notify() is swallowed by the nil channel.  Now the stale `cur` is covered by nothing — and
    nothing is needed, the worker is not running; a Restart will owe a notify(). -/
def exStaleSwallowed : List Ev := [
  .makeSig 1 100, .spawnD 1 10, .stStatus 1 running, .notify 1 true, .enq 5, .notify 5 false,
  .recvTok 10, .dStatus 10 running, .dCur 10 0, .dConc 10 1, .dLen 10 1, .dCasOk 10, .dDeq 10,
  .dStatus 10 running, .dCur 10 1, .relX 7 0, .stStatus 2 stopped, .closeSig 2, .notify 7 false]

example : ∃ s, Reach s ∧ s.dph 10 = .sawCur 1 ∧ s.cur < 1 ∧ ¬ TokCur s ∧ s.nOwes = 0 ∧
    ∀ d, d ≠ 10 → (s.dph d).willEval = false :=
  have hr := reach_run (.init 1) exStaleSwallowed rfl
  -- 10 is the only goroutine started as an event loop
  ⟨_, hr, rfl, by decide, by decide, rfl, fun _ hne => Bool.eq_false_iff.mpr fun hd =>
    hne (List.mem_singleton.mp (willEval_mem_ds hr hd))⟩

-- non-vacuity: reachable dispatchable states in which exactly one of the three disjuncts holds
example : ∃ s, Reach s ∧ Dispatchable s ∧ ¬ TokCur s ∧ 0 < s.nOwes ∧ ∀ d, (s.dph d).willEval = false :=
  have hr := reach_run (.init 1) [.makeSig 1 100, .spawnD 1 10, .stStatus 1 running, .enq 5] rfl
  ⟨_, hr, by decide, by decide, by decide, quiet_of_quietB hr rfl⟩

example : ∃ s, Reach s ∧ Dispatchable s ∧ TokCur s ∧ s.nOwes = 0 ∧ ∀ d, (s.dph d).willEval = false :=
  have hr := reach_run (.init 1) (exStart.take 6) rfl
  ⟨_, hr, by decide, by decide, rfl, quiet_of_quietB hr rfl⟩

example : ∃ s, Reach s ∧ Dispatchable s ∧ ¬ TokCur s ∧ s.nOwes = 0 ∧ (s.dph 10).willEval = true :=
  ⟨_, reach_run (.init 1) (exStart.take 7) rfl, by decide⟩

-- after a Restart: dispatchable, covered by the token on the NEW channel (and by the old loop)
example : ∃ s, Reach s ∧ Dispatchable s ∧ s.chan = some 101 ∧ TokCur s ∧ s.nOwes = 0 ∧ Listening s :=
  ⟨_, reach_run (.init 1) exRestart rfl, by decide⟩

/-- the swallowed notify(): a job is pending, nothing is owed, no token, the nil channel.  Not a lost
    wake-up, because the worker is not running; the next `stStatus running` owes a notify(). -/
example : ∃ s, Reach s ∧ 0 < s.qlen ∧ s.cur < s.conc ∧ s.nOwes = 0 ∧ s.chan = none ∧ s.ws = stopped :=
  ⟨_, reach_run (.init 1) (exRestart.take 10) rfl, by decide⟩

theorem asleep_not_dispatchable {s : State} (hr : Reach s) (h0 : s.nOwes = 0)
    (hq : ∀ d, (s.dph d).willEval = false) (hd : Dispatchable s) :
    TokCur s ∧ Listening s := by
  refine ⟨?_, running_listening hr hd.1⟩
  simpa [h0, hq] using no_lost_wakeup hr hd

theorem asleep_min_parallel {s : State} (hr : Reach s) (h0 : s.nOwes = 0)
    (hq : ∀ d, (s.dph d).willEval = false) (ht : ¬ TokCur s) (hw : s.ws = running) :
    min (s.cur + s.qlen) s.conc ≤ s.cur := by
  have h : ¬ Dispatchable s := fun hd => ht (asleep_not_dispatchable hr h0 hq hd).1
  unfold Dispatchable at h
  omega

-- non-vacuity: the hypotheses of `asleep_not_dispatchable` hold in a reachable state
example : ∃ s, Reach s ∧ s.nOwes = 0 ∧ (∀ d, (s.dph d).willEval = false) ∧ Dispatchable s :=
  have hr := reach_run (.init 1) (exStart.take 6) rfl
  ⟨_, hr, rfl, quiet_of_quietB hr rfl, by decide⟩

-- … and those of `asleep_min_parallel` (after a Restart, the old loop has ended)
example : ∃ s, Reach s ∧ s.nOwes = 0 ∧ (∀ d, (s.dph d).willEval = false) ∧ ¬ TokCur s ∧ s.ws = running ∧ s.cur = s.conc :=
  have hr := reach_run (.init 1) exRestartOldEnds rfl
  ⟨_, hr, rfl, quiet_of_quietB hr rfl, by decide⟩



theorem nOwes_pos_iff {s : State} (hr : Reach s) : 0 < s.nOwes ↔ ∃ g, 0 < s.owes g :=
  sumOf_pos_iff (reach_inv hr).gh

theorem nOwes_eq_zero_iff {s : State} (hr : Reach s) : s.nOwes = 0 ↔ ∀ g, s.owes g = 0 :=
  sumOf_eq_zero_iff (reach_inv hr).gh

/-- as `Sig.notify_enabled`; on the nil channel the send never reports "sent" -/
theorem notify_enabled {s : State} (hr : Reach s) (g : Nat) :
    ∃ s', step s (.notify g (match s.chan with | some ch => !s.tok ch | none => false)) = .ok s' := by
  have hn := sumOf_ne_zero (reach_inv hr).gh (g := g)
  cases hc : s.chan with
  | none => by_cases h0 : s.owes g = 0 <;> simp [step, hc, h0, hn]
  | some ch => by_cases h0 : s.owes g = 0 <;> cases ht : s.tok ch <;> simp [step, hc, h0, hn, ht]

theorem no_lost_wakeup_witness {s : State} (hr : Reach s) (hd : Dispatchable s) :
    TokCur s ∨ (∃ g, 0 < s.owes g) ∨ ∃ d, (s.dph d).willEval = true :=
  (no_lost_wakeup hr hd).imp_right (.imp_left (nOwes_pos_iff hr).mp)

-- non-vacuity of the ghost link: two goroutines owe three calls, one of them paid into the nil channel
example : runProj (fun s => (s.owes 5, s.owes 6, s.owes 7, s.nOwes)) 1 [.enq 5, .enq 6, .enq 5, .stConc 7 2, .notify 7 false]
    = some (2, 1, 0, 3) := by decide

#print axioms no_lost_wakeup
#print axioms running_listening
#print axioms asleep_not_dispatchable
#print axioms nOwes_eq_zero_iff
#print axioms notify_enabled
#print axioms closed_never_current
#print axioms no_lost_wakeup_strong
#print axioms stale_cur_covered
#print axioms asleep_min_parallel
#print axioms loop_registered
#print axioms no_lost_wakeup_witness

end Sig2
end VarmqVerif
