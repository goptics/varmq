/-
  The inductive invariant of the wake-up protocol model `Sig2` (Model/Sig2.lean): several signal
  channels, several event loops.
-/
import VarmqVerif.Model.Sig2
import VarmqVerif.Proofs.SumOf
import VarmqVerif.Proofs.Guard

namespace VarmqVerif
namespace Sig2

/-- common opening: unfold the step function for one constructor, split all guards, discard the
    error branches, and substitute the successor state -/
macro "step_cases" h:ident : tactic =>
  `(tactic| (
    simp only [step] at $h:ident
    repeat' (split at $h:ident)
    all_goals (first | (cases $h:ident; done) | skip)
    all_goals (first | (injection $h:ident with $h:ident; subst $h:ident) | skip)))

theorem reach_run {s s' : State} (hr : Reach s) (es : List Ev) (h : run s es = .ok s') : Reach s' :=
  reach_of_run step run (fun _ => rfl) (fun s e _ => by cases h : step s e <;> simp only [run, h]) Reach.step hr h

def InvCh (s : State) : Prop :=
  (∀ ch, s.chan = some ch → s.closed ch = false ∧ s.made ch = true) ∧
  (∀ ch, s.closed ch = true → s.made ch = true)

def InvL (s : State) : Prop := s.ws = running → Listening s

def GoodP (ph : DPh) (cur : Nat) : Prop :=
  ph.willEval = true ∧ ∀ c, ph = .sawCur c → c ≤ cur

/-- the event loop `d` will evaluate the loop condition again, and the part of it that it has
    evaluated already is not stale in the dangerous direction: a loaded `cur` is not above `cur` -/
def Good (s : State) (d : Nat) : Prop := GoodP (s.dph d) s.cur

/-- (W) merges clauses (A) and (B) of Proofs/SigLemmas.lean.  With several event loops the clause
    "dph d = sawCur c → c ≤ cur ∨ token ∨ owed notify ∨ another loop will evaluate" is FALSE in some
    reachable states (the other loop may leave because the worker is not running any more, and a notify()
    may be swallowed by the nil channel while the worker is stopped: `exStaleSwallowed` in Proofs/Sig2.lean),
    but it is only ever needed in dispatchable states, and there (W) provides it (`stale_cur_covered`). -/
def InvW (s : State) : Prop :=
  Dispatchable s → TokCur s ∨ 0 < s.nOwes ∨ ∃ d, Good s d

/- The successful cases of `fun_cases step s e`, by number:
     4 makeSig   6 closeSig   9 spawnD   14 recvTok   18 recvClosed   22 dStatus   24, 25 dCur (to sawCur, parks)
     28 dConc   32 dLen   34 dCasOk   37 dDeq   41 dRel   42 enq   44 deqX   48 relX
     50, 52 stStatus (running, other)   53, 54 stConc (upwards, not)
     56, 58 notify (nothing owed, pays one)   60, 62 notify on the nil channel (nothing owed, pays one) -/

theorem invCh_step {s s' : State} {e : Ev} (hi : InvCh s) (h : step s e = .ok s') : InvCh s' := by
  revert h; fun_cases step s e <;> rintro ⟨⟩
  -- only makeSig and closeSig write `chan`, `closed`, `made`
  all_goals first | exact hi | skip
  -- a channel that was never made is not closed; the channel closed was current, hence made
  all_goals
    obtain ⟨h1, h2⟩ := hi
    unfold InvCh
    grind [upd]

theorem liveOn_iff (s : State) (ch : Nat) :
    liveOn s ch = true ↔ ∃ d ∈ s.ds, s.dph d ≠ .none ∧ s.dch d = ch := by
  simp [liveOn, List.any_eq_true]

theorem invL_step {s s' : State} {e : Ev} (hc : InvCh s) (hi : InvL s) (h : step s e = .ok s') : InvL s' := by
  revert h; fun_cases step s e <;> rintro ⟨⟩
  all_goals first | exact hi | skip
  -- stStatus running: stored only while an event loop listens on the current channel, which is open by (Ch)
  case case50 ch hch hl =>
    exact fun _ => ⟨ch, hch, (hc.1 ch hch).1, (liveOn_iff s ch).mp (by simpa using hl)⟩
  -- stStatus other; makeSig, closeSig: the status is not `running` afterwards, or was not before
  case case52 hv => exact fun hw => absurd hw (by simpa using hv)
  case case4 hv | case6 hv => exact fun hw => absurd hw (by simpa using hv)
  -- an event loop changes its phase (a new one starts): the listener stays; a loop that ends was on a closed channel
  all_goals
    unfold InvL Listening at hi ⊢
    grind [upd, isD]

theorem exists_good_upd (f : Nat → DPh) (cur d : Nat) (x : DPh) (h : ∃ d', GoodP (f d') cur)
    (hx : GoodP x cur ∨ ¬ GoodP (f d) cur) : ∃ d', GoodP (upd f d x d') cur := by
  rcases hx with hx | hx
  · exact ⟨d, by simpa using hx⟩
  · obtain ⟨d', hd'⟩ := h
    have hne : d' ≠ d := fun he => hx (he ▸ hd')
    exact ⟨d', by simpa [upd_other _ _ _ _ hne] using hd'⟩

theorem invW_upd {s s' : State} (hi : InvW s) (d : Nat) (x : DPh)
    (hws : s'.ws = s.ws) (hcur : s'.cur = s.cur) (hconc : s'.conc = s.conc) (hq : s'.qlen = s.qlen)
    (hn : s'.nOwes = s.nOwes) (hdph : s'.dph = upd s.dph d x)
    (hx : Dispatchable s → GoodP x s.cur ∨ ¬ GoodP (s.dph d) s.cur)
    (ht : TokCur s → TokCur s' ∨ GoodP x s.cur) : InvW s' := by
  intro hd'
  have hd : Dispatchable s := by
    unfold Dispatchable at hd' ⊢
    rw [hws, hcur, hconc, hq] at hd'
    exact hd'
  have hgood : GoodP x s.cur → ∃ d', Good s' d' := fun hg => ⟨d, by
    unfold Good
    rw [hdph, hcur, upd_same]
    exact hg⟩
  rcases hi hd with h | h | h
  · rcases ht h with h | h
    · exact .inl h
    · exact .inr (.inr (hgood h))
  · exact .inr (.inl (by omega))
  · obtain ⟨d', hd'⟩ := exists_good_upd s.dph s.cur d x h (hx hd)
    exact .inr (.inr ⟨d', by unfold Good; rw [hdph, hcur]; exact hd'⟩)

theorem invW_of_owed {s : State} (h : 0 < s.nOwes) : InvW s := fun _ => .inr (.inl h)

theorem invW_step {s s' : State} {e : Ev} (hl : InvL s) (hi : InvW s) (h : step s e = .ok s') : InvW s' := by
  revert h; fun_cases step s e <;> rintro ⟨⟩
  -- enq, relX, stStatus running, stConc upwards: an owed notify() afterwards
  case case42 | case48 | case50 | case53 => exact invW_of_owed (Nat.succ_pos _)
  -- stStatus other; makeSig, closeSig: the status is not `running` afterwards, or was not before
  case case52 hv => exact fun hd => absurd hd.1 (by simpa using hv)
  case case4 hv | case6 hv => exact fun hd => absurd hd.1 (by simpa using hv)
  -- spawnD, recvTok, recvClosed, dStatus, dCur, dConc, dLen: an event loop changes its phase
  case case9 | case14 | case18 | case22 | case24 | case25 | case28 | case32 =>
    refine invW_upd hi _ _ rfl rfl rfl rfl rfl rfl ?_ ?_ <;> grind [Dispatchable, TokCur, upd, isD, GoodP, DPh.willEval]
  -- a notify() on the nil channel happens only while not running (L)
  case case60 | case62 =>
    have hl' : s.ws = running → ∃ ch, s.chan = some ch := fun hw => (hl hw).imp fun _ h => h.1
    unfold InvW Dispatchable TokCur Good at hi ⊢
    grind
  -- the token is there afterwards; the counters move under an event loop in processNextJob, or downwards
  all_goals
    unfold InvW Dispatchable TokCur Good at hi ⊢
    grind [upd, GoodP, DPh.willEval]

def InvD (s : State) : Prop := ∀ d, s.dph d ≠ .none → d ∈ s.ds ∧ s.made (s.dch d) = true

theorem invD_step {s s' : State} {e : Ev} (hc : InvCh s) (hi : InvD s) (h : step s e = .ok s') : InvD s' := by
  revert h; fun_cases step s e <;> rintro ⟨⟩
  all_goals first | exact hi | skip
  -- spawnD: the new loop listens on the current channel, which (Ch) says was made
  all_goals
    obtain ⟨h1, h2⟩ := hc
    unfold InvD at hi ⊢
    grind [upd, isD]

def Ghost (s : State) : Prop := SumOf s.owes s.nOwes

theorem ghost_step {s s' : State} {e : Ev} (hs : Ghost s) (h : step s e = .ok s') : Ghost s' := by
  revert h; fun_cases step s e <;> rintro ⟨⟩
  -- enq, relX, stStatus running, stConc upwards owe a notify()
  case case42 | case48 | case50 | case53 => exact sumOf_incr hs _
  -- a notify() pays one, also on the nil channel
  case case58 g _ _ _ _ hz _ | case62 g _ _ _ hz _ => exact sumOf_decr hs g (by simpa using hz)
  all_goals exact hs

structure Inv (s : State) : Prop where
  ch : InvCh s
  l : InvL s
  w : InvW s
  d : InvD s
  gh : Ghost s

theorem inv_init (c : Nat) : Inv (init c) where
  ch := ⟨fun _ h => by simp [init] at h, fun _ h => by simp [init] at h⟩
  l h := by simp [init, running] at h
  w h := by simp [Dispatchable, init, running] at h
  d _ h := by simp [init] at h
  gh := sumOf_zero

theorem inv_step {s s' : State} {e : Ev} (hi : Inv s) (h : step s e = .ok s') : Inv s' :=
  ⟨invCh_step hi.ch h, invL_step hi.ch hi.l h, invW_step hi.l hi.w h, invD_step hi.ch hi.d h, ghost_step hi.gh h⟩

theorem reach_inv {s : State} (hr : Reach s) : Inv s :=
  hr.rec inv_init fun _ _ h ih => inv_step ih h

end Sig2
end VarmqVerif
