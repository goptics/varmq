import VarmqVerif.Model.JobCfg
namespace VarmqVerif
namespace JobCfg

theorem load_nil (g : String) : loadJobConfigs g [] = g := rfl

theorem load_append (g : String) (opts : List String) (id : String) :
    loadJobConfigs g (opts ++ [id]) = applyOpt (loadJobConfigs g opts) id := by
  simp [loadJobConfigs, List.foldl_append]

/-- with no non-empty WithJobId the generator's id is used -/
theorem load_all_empty (g : String) (opts : List String) (h : ∀ o ∈ opts, o = "") : loadJobConfigs g opts = g := by
  induction opts with
  | nil => rfl
  | cons o os ih =>
    -- an empty option leaves the id as it is, by evaluation
    obtain ⟨rfl, hos⟩ := List.forall_mem_cons.1 h
    exact ih hos

/-- otherwise the last non-empty WithJobId wins, whatever precedes or follows it -/
theorem load_last_nonempty (g : String) (pre post : List String) (id : String) (hid : id ≠ "")
    (hpost : ∀ o ∈ post, o = "") : loadJobConfigs g (pre ++ id :: post) = id := by
  rw [loadJobConfigs, List.foldl_append, List.foldl_cons, applyOpt, if_neg hid]
  exact load_all_empty id post hpost

theorem nil_func_outcomes :
    helperOutcome .func true = .panicNil ∧ helperOutcome .errFunc true = .errNil ∧ helperOutcome .resultFunc true = .errNil ∧
    ∀ h, helperOutcome h false = .ran :=
  ⟨rfl, rfl, rfl, fun _ => rfl⟩

example : loadJobConfigs "gen1" ["", "a", "", "b", ""] = "b" := by decide
example : loadJobConfigs "gen1" ["", ""] = "gen1" := by decide

end JobCfg
end VarmqVerif
