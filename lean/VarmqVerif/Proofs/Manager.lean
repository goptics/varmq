/-
  Theorems about the model of /repo/internal/helpers/manager.go (VarmqVerif/Model/Manager.lean).

  Each selection function has one exhaustive case lemma (`roundRobin_cases`, `maxLen_cases`,
  `minLen_cases`; `select_cases` for the machine `step`); the named specifications are read off it.

  The fairness of round robin over unbounded runs of the machine `step` (events `enq i`, `select`) comes from
  `run_travel`: seen from any queue `i` that is non-empty at every `select`, `n * served i - dist n rr i` grows by
  the distance the cursor has travelled, which is at least the number of selects and the same for every such queue.
-/
import VarmqVerif.Model.Manager

namespace VarmqVerif
namespace Manager

def dist (n rr i : Nat) : Nat := (i + n - rr) % n

theorem dist_lt {n rr i : Nat} (hn : 0 < n) : dist n rr i < n := Nat.mod_lt _ hn

/-- `dist n rr i` is the `d < n` with `rr + d ≡ i (mod n)`. Every other fact about `dist` is linear
arithmetic over this one (and `dist_lt`), which is how `omega` gets past the `%`. -/
theorem dist_spec {n rr i : Nat} (hr : rr < n) (hi : i < n) :
    rr + dist n rr i = i ∨ rr + dist n rr i = i + n := by
  unfold dist
  by_cases h : rr ≤ i
  · rw [show i + n - rr = i - rr + n by omega, Nat.add_mod_right, Nat.mod_eq_of_lt (by omega)]; omega
  · rw [Nat.mod_eq_of_lt (by omega)]; omega

/-- `x % n` for `x < 2 * n`, in the form `omega` can use (`dist_add`, `dist_after`) -/
theorem mod_cases {x n : Nat} (h : x < 2 * n) : x < n ∧ x % n = x ∨ n ≤ x ∧ x % n + n = x := by
  by_cases hx : x < n
  · exact .inl ⟨hx, Nat.mod_eq_of_lt hx⟩
  · rw [Nat.mod_eq_sub_mod (by omega), Nat.mod_eq_of_lt (by omega)]; omega

theorem dist_self {n rr : Nat} (hr : rr < n) : dist n rr rr = 0 := by
  have := dist_spec hr hr; have := dist_lt (rr := rr) (i := rr) (Nat.zero_lt_of_lt hr); omega

theorem dist_inj {n rr a b : Nat} (hr : rr < n) (ha : a < n) (hb : b < n)
    (h : dist n rr a = dist n rr b) : a = b := by
  have := dist_spec hr ha; have := dist_spec hr hb; omega

theorem add_dist {n rr i : Nat} (hr : rr < n) (hi : i < n) : (rr + dist n rr i) % n = i := by
  rcases dist_spec hr hi with h | h <;> rw [h]
  · exact Nat.mod_eq_of_lt hi
  · rw [Nat.add_mod_right, Nat.mod_eq_of_lt hi]

theorem dist_add {n rr k : Nat} (hr : rr < n) (hk : k < n) : dist n rr ((rr + k) % n) = k := by
  have hn : 0 < n := by omega
  have := dist_spec hr (Nat.mod_lt (rr + k) hn); have := mod_cases (x := rr + k) (n := n) (by omega)
  have := dist_lt (rr := rr) (i := (rr + k) % n) hn
  omega

/-- Distances from the cursor after item `q` has been served (`rr' = (q+1) % n`): the cursor has
travelled `dist n rr q + 1`, so every item is that much closer, those up to `q` after wrapping
round. -/
theorem dist_after {n rr q t : Nat} (hr : rr < n) (hq : q < n) (ht : t < n) :
    dist n ((q + 1) % n) t + dist n rr q + 1 =
      dist n rr t + if dist n rr t ≤ dist n rr q then n else 0 := by
  have hn : 0 < n := by omega
  have hq1 : (q + 1) % n < n := Nat.mod_lt _ hn
  have := dist_spec hq1 ht; have := dist_spec hr hq; have := dist_spec hr ht
  have := mod_cases (x := q + 1) (n := n) (by omega)
  have := dist_lt (rr := (q + 1) % n) (i := t) hn
  have := dist_lt (rr := rr) (i := t) hn
  have := dist_lt (rr := rr) (i := q) hn
  split <;> omega

/-- One turn of `rrLoop`, seen through `dist`. -/
theorem dist_succ {n start c : Nat} (hs : start < n) (hc : c < n) :
    ((c + 1) % n = start ∧ dist n start c + 1 = n) ∨
    ((c + 1) % n ≠ start ∧ dist n start ((c + 1) % n) = dist n start c + 1) := by
  have hn : 0 < n := by omega
  have hc1 : (c + 1) % n < n := Nat.mod_lt _ hn
  have h := dist_after hs hc hc1
  rw [dist_self hc1] at h
  have := dist_lt (rr := start) (i := c) hn
  split at h
  · exact .inl ⟨dist_inj hs hc1 hs (by rw [dist_self hs]; omega), by omega⟩
  · exact .inr ⟨fun e => by rw [e, dist_self hs] at h; omega, by omega⟩

/-! ## GetRoundRobinItem -/

/-- The invariant of the loop: the fuel left is `n - dist n start c`, and every item before `c` in the cyclic order
from `start` is empty. -/
theorem rrLoop_spec (lens : List Int) (start : Nat) (hs : start < lens.length) :
    ∀ fuel c, c < lens.length → dist lens.length start c + fuel = lens.length →
      (∀ t (ht : t < lens.length), dist lens.length start t < dist lens.length start c → lens[t] ≤ 0) →
      (∃ q, ∃ hq : q < lens.length, 0 < lens[q] ∧
          (∀ t (ht : t < lens.length), dist lens.length start t < dist lens.length start q → lens[t] ≤ 0) ∧
          rrLoop lens start fuel c = (.ok q, (q + 1) % lens.length)) ∨
      ((∀ t (ht : t < lens.length), lens[t] ≤ 0) ∧ rrLoop lens start fuel c = (.error .allEmpty, start)) := by
  intro fuel
  induction fuel with
  | zero => intro c _ h; have := dist_lt (rr := start) (i := c) (Nat.zero_lt_of_lt hs); omega
  | succ fuel ih =>
    intro c hc hfuel hpre
    rw [rrLoop, dif_pos hc]
    by_cases hpos : lens[c] > 0
    · exact .inl ⟨c, hc, hpos, hpre, by simp only [hpos, if_true]⟩
    · simp only [hpos, if_false]
      have hpre' : ∀ t (ht : t < lens.length),
          dist lens.length start t ≤ dist lens.length start c → lens[t] ≤ 0 := by
        intro t ht hle
        by_cases h : dist lens.length start t = dist lens.length start c
        · cases dist_inj hs ht hc h; omega
        · exact hpre t ht (by omega)
      rcases dist_succ hs hc with ⟨h1, h2⟩ | ⟨h1, h2⟩
      · rw [if_pos h1, h1]
        exact .inr ⟨fun t ht => hpre' t ht (by have := dist_lt (rr := start) (i := t) (Nat.zero_lt_of_lt hs); omega), rfl⟩
      · rw [if_neg h1]
        exact ih _ (Nat.mod_lt _ (Nat.zero_lt_of_lt hs)) (by omega) (fun t ht h => hpre' t ht (by omega))

/-- `GetRoundRobinItem` from an in-range cursor, all cases: it serves the non-empty item cyclically closest to
the cursor and moves the cursor just past it, or nothing is non-empty and the cursor is back where
it started. -/
theorem roundRobin_cases (lens : List Int) (rr : Nat) (hrr : rr < lens.length) :
    (∃ q, ∃ hq : q < lens.length, 0 < lens[q] ∧
        (∀ t (ht : t < lens.length), dist lens.length rr t < dist lens.length rr q → lens[t] ≤ 0) ∧
        roundRobin lens rr = (.ok q, (q + 1) % lens.length)) ∨
    ((∀ t (ht : t < lens.length), lens[t] ≤ 0) ∧ roundRobin lens rr = (.error .allEmpty, rr)) := by
  rw [roundRobin, if_neg (by omega)]
  exact rrLoop_spec lens rr hrr _ rr hrr (by rw [dist_self hrr]; omega) (by rw [dist_self hrr]; omega)

theorem rr_spec (lens : List Int) (rr : Nat) (hrr : rr < lens.length) :
    ((∃ j, ∃ hj : j < lens.length, 0 < lens[j]) →
      ∃ q, ∃ hq : q < lens.length,
        roundRobin lens rr = (.ok q, (q + 1) % lens.length) ∧ 0 < lens[q] ∧
        ∀ t (ht : t < lens.length), dist lens.length rr t < dist lens.length rr q → lens[t] ≤ 0) ∧
    ((∀ j (hj : j < lens.length), lens[j] ≤ 0) →
      roundRobin lens rr = (.error .allEmpty, rr)) := by
  rcases roundRobin_cases lens rr hrr with ⟨q, hq, h1, h2, h3⟩ | ⟨h1, h2⟩
  · exact ⟨fun _ => ⟨q, hq, h3, h1, h2⟩, fun h => absurd (h q hq) (by omega)⟩
  · exact ⟨fun ⟨j, hj, h⟩ => absurd (h1 j hj) (by omega), fun _ => h2⟩

/-- Total indexing, so that `rr_ok_offset` can speak of `(rr + k') % n` without bound proofs. -/
abbrev at0 (lens : List Int) (i : Nat) : Int := lens[i]?.getD 0

theorem at0_eq (lens : List Int) (i : Nat) (h : i < lens.length) : at0 lens i = lens[i] := by
  simp [at0, h]

theorem rr_ok_offset (lens : List Int) (rr : Nat) (hrr : rr < lens.length) (q rr' : Nat)
    (h : roundRobin lens rr = (.ok q, rr')) :
    ∃ k, k < lens.length ∧ q = (rr + k) % lens.length ∧ rr' = (q + 1) % lens.length ∧
      0 < at0 lens q ∧ ∀ k', k' < k → at0 lens ((rr + k') % lens.length) ≤ 0 := by
  have hn : 0 < lens.length := by omega
  rcases roundRobin_cases lens rr hrr with ⟨q', hq, h1, h2, h3⟩ | ⟨_, h2⟩
  · rw [h3] at h
    obtain ⟨⟨⟩, rfl⟩ := Prod.mk.inj h
    refine ⟨dist lens.length rr q, dist_lt hn, (add_dist hrr hq).symm, rfl, by rwa [at0_eq _ _ hq], ?_⟩
    intro k' hk'
    have hlt : (rr + k') % lens.length < lens.length := Nat.mod_lt _ hn
    rw [at0_eq _ _ hlt]
    exact h2 _ hlt (by rwa [dist_add hrr (by have := dist_lt (rr := rr) (i := q) hn; omega)])
  · rw [h2] at h; cases h

theorem rr_noItems (rr : Nat) : roundRobin [] rr = (.error .noItems, rr) := rfl

theorem rr_noItems_iff (lens : List Int) (rr : Nat) (hrr : rr < lens.length ∨ lens = []) :
    (roundRobin lens rr).1 = .error .noItems ↔ lens = [] := by
  refine ⟨fun h => ?_, by rintro rfl; rfl⟩
  rcases hrr with hrr | hrr
  · rcases roundRobin_cases lens rr hrr with ⟨q, _, _, _, h3⟩ | ⟨_, h2⟩
    · rw [h3] at h; cases h
    · rw [h2] at h; cases h
  · exact hrr

theorem rr_ok_iff (lens : List Int) (rr : Nat) (hrr : rr < lens.length) :
    (∃ q, (roundRobin lens rr).1 = .ok q) ↔ ∃ j, ∃ hj : j < lens.length, 0 < lens[j] := by
  rcases roundRobin_cases lens rr hrr with ⟨q, hq, h1, _, h3⟩ | ⟨h1, h2⟩
  · exact ⟨fun _ => ⟨q, hq, h1⟩, fun _ => ⟨q, by rw [h3]⟩⟩
  · rw [h2]
    exact ⟨fun ⟨_, h⟩ => (nomatch h), fun ⟨j, hj, h⟩ => absurd (h1 j hj) (by omega)⟩

theorem rr_allEmpty_iff (lens : List Int) (rr : Nat) (hrr : rr < lens.length) :
    (roundRobin lens rr).1 = .error .allEmpty ↔ ∀ j (hj : j < lens.length), lens[j] ≤ 0 := by
  rcases roundRobin_cases lens rr hrr with ⟨q, hq, h1, _, h3⟩ | ⟨h1, h2⟩
  · rw [h3]
    exact ⟨fun h => (nomatch h), fun h => absurd (h q hq) (by omega)⟩
  · rw [h2]; exact ⟨fun _ => h1, fun _ => rfl⟩

theorem rr_allEmpty_cursor (lens : List Int) (rr : Nat) (hrr : rr < lens.length)
    (h : (roundRobin lens rr).1 = .error .allEmpty) : (roundRobin lens rr).2 = rr := by
  rw [(rr_spec lens rr hrr).2 ((rr_allEmpty_iff lens rr hrr).mp h)]

theorem rr_cursor_lt (lens : List Int) (rr : Nat) (hrr : rr < lens.length) :
    (roundRobin lens rr).2 < lens.length := by
  rcases roundRobin_cases lens rr hrr with ⟨q, _, _, _, h3⟩ | ⟨_, h2⟩
  · rw [h3]; exact Nat.mod_lt _ (by omega)
  · rw [h2]; exact hrr

example : roundRobin [0, 3, 0, 2] 2 = (.ok 3, 0) := by decide
example : roundRobin [0, 3, 0, 2] 0 = (.ok 1, 2) := by decide
-- all empty (including a hypothetical negative length): error, cursor back at its start.
example : roundRobin [0, -1, 0] 1 = (.error .allEmpty, 1) := by decide
example : roundRobin [] 7 = (.error .noItems, 7) := by decide
-- hypotheses of rr_spec hold non-trivially
example : (2 : Nat) < [0, 3, 0, 2].length ∧ ∃ j, ∃ hj : j < [0, 3, 0, 2].length, (0 : Int) < [0, 3, 0, 2][j] :=
  ⟨by decide, 1, by decide, by decide⟩
-- out-of-range cursor (Go: index-out-of-range panic), totalised:
example : roundRobin [1, 1] 2 = (.error .allEmpty, 2) := by decide

/-! ## GetMaxLenItem -/

/-- The loop that `maxFrom` and `minFrom` share (`maxFrom_eq`, `minFrom_eq`). -/
def firstBest {α : Type} (lt : α → α → Prop) [DecidableRel lt] : List α → Nat → Nat → α → Nat × α
  | [], _, mi, mv => (mi, mv)
  | x :: xs, i, mi, mv =>
    if lt x mv then firstBest lt xs (i + 1) i x else firstBest lt xs (i + 1) mi mv

/-- `asymm` and `cotrans` make `lt` ("beats") a strict weak order. -/
theorem firstBest_spec {α : Type} {lt : α → α → Prop} [DecidableRel lt]
    (asymm : ∀ {a b}, lt a b → ¬ lt b a) (cotrans : ∀ {a c} b, lt a c → lt a b ∨ lt b c)
    (xs : List α) (i mi : Nat) (mv : α) :
    (firstBest lt xs i mi mv = (mi, mv) ∧ ∀ y ∈ xs, ¬ lt y mv) ∨
    ∃ pre v post, xs = pre ++ v :: post ∧ firstBest lt xs i mi mv = (i + pre.length, v) ∧
      lt v mv ∧ (∀ y ∈ pre, lt v y) ∧ ∀ y ∈ xs, ¬ lt y v := by
  induction xs generalizing i mi mv with
  | nil => exact .inl ⟨rfl, fun _ h => (nomatch h)⟩
  | cons x xs ih =>
    rw [firstBest]
    split
    · next hx =>
      right
      rcases ih (i + 1) i x with ⟨h1, h2⟩ | ⟨pre, v, post, rfl, h1, h2, h3, h4⟩
      · exact ⟨[], x, xs, rfl, h1, hx, fun _ h => (nomatch h),
          List.forall_mem_cons.mpr ⟨fun h => asymm h h, h2⟩⟩
      · exact ⟨x :: pre, v, post, rfl, by rw [h1, List.length_cons]; congr 1; omega,
          (cotrans mv h2).resolve_right (asymm hx),
          List.forall_mem_cons.mpr ⟨h2, h3⟩, List.forall_mem_cons.mpr ⟨asymm h2, h4⟩⟩
    · next hx =>
      rcases ih (i + 1) mi mv with ⟨h1, h2⟩ | ⟨pre, v, post, rfl, h1, h2, h3, h4⟩
      · exact .inl ⟨h1, List.forall_mem_cons.mpr ⟨hx, h2⟩⟩
      · have hvx : lt v x := (cotrans x h2).resolve_right hx
        exact .inr ⟨x :: pre, v, post, rfl, by rw [h1, List.length_cons]; congr 1; omega, h2,
          List.forall_mem_cons.mpr ⟨hvx, h3⟩, List.forall_mem_cons.mpr ⟨asymm hvx, h4⟩⟩

theorem getElem_of_split {α : Type} {P Q : α → Prop} {xs pre post : List α} {v : α}
    (h : xs = pre ++ v :: post) (hP : ∀ y ∈ pre, P y) (hQ : ∀ y ∈ xs, Q y) :
    ∃ hi : pre.length < xs.length, xs[pre.length] = v ∧
      (∀ j (hj : j < xs.length), Q xs[j]) ∧
      ∀ j (hj : j < pre.length), P (xs[j]'(Nat.lt_trans hj hi)) := by
  subst h
  refine ⟨by simp, by simp, fun j hj => hQ _ (List.getElem_mem hj), fun j hj => ?_⟩
  rw [List.getElem_append_left hj]
  exact hP _ (List.getElem_mem hj)

theorem maxFrom_eq (xs : List Int) (i mi : Nat) (mv : Int) :
    maxFrom xs i mi mv = firstBest (fun a b => b < a) xs i mi mv := by
  induction xs generalizing i mi mv with
  | nil => rfl
  | cons x xs ih => simp only [maxFrom, firstBest, ih, Int.sub_pos]

/-- `GetMaxLenItem`, all cases: no items, or the first maximal item `i`, refused when its length
is exactly 0. -/
theorem maxLen_cases (lens : List Int) :
    (lens = [] ∧ maxLen lens = .error .noItems) ∨
    ∃ i, ∃ hi : i < lens.length,
      (∀ j (hj : j < lens.length), lens[j] ≤ lens[i]) ∧
      (∀ j (hj : j < i), lens[j]'(Nat.lt_trans hj hi) < lens[i]) ∧
      maxLen lens = if lens[i] = 0 then .error .allEmpty else .ok i := by
  cases lens with
  | nil => exact .inl ⟨rfl, rfl⟩
  | cons x xs =>
    right
    have h0 : maxFrom xs 1 0 x = firstBest (fun a b => b < a) (x :: xs) 0 0 x := by
      rw [← maxFrom_eq]; simp [maxFrom]
    simp only [maxLen, h0]
    rcases firstBest_spec (lt := fun a b : Int => b < a) (by omega) (by omega) (x :: xs) 0 0 x
      with ⟨h1, h2⟩ | ⟨pre, v, post, h, h1, _, h3, h4⟩
    · rw [h1]
      exact ⟨0, by simp, fun j hj => Int.not_lt.mp (h2 _ (List.getElem_mem hj)), fun j hj => (nomatch hj), rfl⟩
    · rw [h1, Nat.zero_add]
      obtain ⟨hi, rfl, h5, h6⟩ := getElem_of_split (P := (· < v)) (Q := (· ≤ v)) h h3
        (fun y hy => Int.not_lt.mp (h4 y hy))
      exact ⟨_, hi, h5, h6, rfl⟩

theorem maxLen_nil : maxLen [] = .error .noItems := rfl

theorem maxLen_noItems_iff (lens : List Int) : maxLen lens = .error .noItems ↔ lens = [] := by
  rcases maxLen_cases lens with ⟨rfl, h⟩ | ⟨i, hi, _, _, h⟩
  · simp [h]
  · rw [h]; split <;> simp [List.ne_nil_of_length_pos (Nat.zero_lt_of_lt hi)]

theorem maxLen_ok (lens : List Int) (i : Nat) (h : maxLen lens = .ok i) :
    ∃ hi : i < lens.length,
      (∀ j (hj : j < lens.length), lens[j] ≤ lens[i]) ∧
      (∀ j (hj : j < i), lens[j] < lens[i]) ∧ lens[i] ≠ 0 := by
  rcases maxLen_cases lens with ⟨_, h'⟩ | ⟨i', hi, h1, h2, h'⟩
  · rw [h'] at h; cases h
  · rw [h'] at h
    split at h
    · cases h
    · next hne => cases h; exact ⟨hi, h1, h2, hne⟩

theorem maxLen_ok_pos (lens : List Int) (hnn : ∀ l ∈ lens, 0 ≤ l) (i : Nat)
    (h : maxLen lens = .ok i) : ∃ hi : i < lens.length, 0 < lens[i] := by
  obtain ⟨hi, _, _, hne⟩ := maxLen_ok lens i h
  have := hnn _ (List.getElem_mem hi)
  exact ⟨hi, by omega⟩

theorem maxLen_allEmpty_iff (lens : List Int) :
    maxLen lens = .error .allEmpty ↔
      lens ≠ [] ∧ (∀ j (hj : j < lens.length), lens[j] ≤ 0) ∧
        ∃ j, ∃ hj : j < lens.length, lens[j] = 0 := by
  rcases maxLen_cases lens with ⟨rfl, h⟩ | ⟨i, hi, h1, _, h⟩
  · simp [h]
  · rw [h]
    split
    · next h0 => exact ⟨fun _ => ⟨List.ne_nil_of_length_pos (Nat.zero_lt_of_lt hi), fun j hj => h0 ▸ h1 j hj, i, hi, h0⟩, fun _ => rfl⟩
    · next hne =>
      refine ⟨fun h => (nomatch h), fun ⟨_, hall, j, hj, hz⟩ => ?_⟩
      have := h1 j hj; have := hall i hi; omega

theorem maxLen_allEmpty_iff_of_nonneg (lens : List Int) (hnn : ∀ l ∈ lens, 0 ≤ l) :
    maxLen lens = .error .allEmpty ↔ lens ≠ [] ∧ ∀ j (hj : j < lens.length), lens[j] = 0 := by
  rw [maxLen_allEmpty_iff]
  refine and_congr_right fun hne => ⟨fun ⟨h, _⟩ j hj => ?_, fun h => ⟨fun j hj => Int.le_of_eq (h j hj), 0, ?_, h 0 ?_⟩⟩
  · have := h j hj; have := hnn _ (List.getElem_mem hj); omega
  all_goals exact List.length_pos_iff.mpr hne

theorem maxLen_ok_iff_of_nonneg (lens : List Int) (hnn : ∀ l ∈ lens, 0 ≤ l) :
    (∃ i, maxLen lens = .ok i) ↔ ∃ j, ∃ hj : j < lens.length, 0 < lens[j] := by
  rcases maxLen_cases lens with ⟨rfl, h⟩ | ⟨i, hi, h1, _, h⟩
  · simp [h]
  · rw [h]
    split
    · next h0 => exact ⟨fun ⟨_, h⟩ => (nomatch h), fun ⟨j, hj, hp⟩ => by have := h1 j hj; omega⟩
    · next hne => exact ⟨fun _ => ⟨i, hi, by have := hnn _ (List.getElem_mem hi); omega⟩, fun _ => ⟨i, rfl⟩⟩

/-- Non-negative lengths are what `Len()` returns. Without the assumption see `maxLen_ok`, `maxLen_allEmpty_iff`:
the Go test is `== 0`, so a negative maximum would be returned as `.ok`. -/
theorem maxLen_spec (lens : List Int) (hnn : ∀ l ∈ lens, 0 ≤ l) :
    (∀ i, maxLen lens = .ok i → ∃ hi : i < lens.length, 0 < lens[i] ∧
        (∀ j (hj : j < lens.length), lens[j] ≤ lens[i]) ∧ (∀ j (hj : j < i), lens[j] < lens[i])) ∧
    (maxLen lens = .error .allEmpty ↔ lens ≠ [] ∧ ∀ j (hj : j < lens.length), lens[j] = 0) ∧
    (maxLen lens = .error .noItems ↔ lens = []) ∧
    ((∃ i, maxLen lens = .ok i) ↔ ∃ j, ∃ hj : j < lens.length, 0 < lens[j]) := by
  refine ⟨?_, maxLen_allEmpty_iff_of_nonneg lens hnn, maxLen_noItems_iff lens,
    maxLen_ok_iff_of_nonneg lens hnn⟩
  intro i h
  obtain ⟨hi, h1, h2, _⟩ := maxLen_ok lens i h
  obtain ⟨_, hp⟩ := maxLen_ok_pos lens hnn i h
  exact ⟨hi, hp, h1, h2⟩

example : maxLen [1, 3, 3, 2] = .ok 1 := by decide
example : maxLen [0, 0] = .error .allEmpty := by decide
example : maxLen [] = .error .noItems := by decide
-- a (hypothetical) negative maximum passes the `== 0` test
example : maxLen [-1, -2] = .ok 0 := by decide

/-! ## GetMinLenItem -/

/-- On the values `minLen` can hold (`-1` or a positive length) this is the test in the Go loop (`minFrom_eq`). -/
abbrev minLt (a b : Int) : Prop := 0 < a ∧ (b ≤ 0 ∨ a < b)

theorem minFrom_eq (xs : List Int) (i mi : Nat) (ml : Int) (hml : ml = -1 ∨ 0 < ml) :
    minFrom xs i mi ml = firstBest minLt xs i mi ml := by
  induction xs generalizing i mi ml with
  | nil => rfl
  | cons x xs ih =>
    have : (x > 0 ∧ (ml = -1 ∨ x < ml)) ↔ minLt x ml := by simp only [minLt]; omega
    simp only [minFrom, firstBest, this]
    split
    · next h => exact ih _ _ _ (.inr h.1)
    · exact ih _ _ _ hml

/-- `GetMinLenItem`, all cases: no items, no positive length, or the first item `i` of least
positive length. -/
theorem minLen_cases (lens : List Int) :
    (lens = [] ∧ minLen lens = .error .noItems) ∨
    (lens ≠ [] ∧ (∀ j (hj : j < lens.length), lens[j] ≤ 0) ∧ minLen lens = .error .allEmpty) ∨
    ∃ i, ∃ hi : i < lens.length, 0 < lens[i] ∧
      (∀ j (hj : j < lens.length), 0 < lens[j] → lens[i] ≤ lens[j]) ∧
      (∀ j (hj : j < i), 0 < lens[j]'(Nat.lt_trans hj hi) → lens[i] < lens[j]'(Nat.lt_trans hj hi)) ∧
      minLen lens = .ok i := by
  by_cases hne : lens = []
  · subst hne; exact .inl ⟨rfl, rfl⟩
  right
  rw [minLen, if_neg (fun h => hne (List.eq_nil_of_length_eq_zero h)), minFrom_eq _ _ _ _ (.inl rfl)]
  rcases firstBest_spec (lt := minLt) (by simp only [minLt]; omega)
    (by simp only [minLt]; omega) lens 0 0 (-1) with ⟨h1, h2⟩ | ⟨pre, v, post, h, h1, h2, h3, h4⟩
  · rw [h1]
    exact .inl ⟨hne, fun j hj => by have := h2 _ (List.getElem_mem hj); simp only [minLt] at this; omega, rfl⟩
  · rw [h1, Nat.zero_add]
    obtain ⟨hi, rfl, h5, h6⟩ := getElem_of_split (P := fun y => 0 < y → v < y)
      (Q := fun y => 0 < y → v ≤ y) h
      (fun y hy => by have := h3 y hy; simp only [minLt] at this; omega)
      (fun y hy => by have := h4 y hy; simp only [minLt] at this; omega)
    exact .inr ⟨_, hi, h2.1, h5, h6, if_neg (by have := h2.1; omega)⟩

theorem minLen_nil : minLen [] = .error .noItems := rfl

theorem minLen_noItems_iff (lens : List Int) : minLen lens = .error .noItems ↔ lens = [] := by
  rcases minLen_cases lens with ⟨rfl, h⟩ | ⟨hne, _, h⟩ | ⟨i, hi, _, _, _, h⟩ <;> rw [h]
  · simp
  · simp [hne]
  · simp [List.ne_nil_of_length_pos (Nat.zero_lt_of_lt hi)]

theorem minLen_ok (lens : List Int) (i : Nat) (h : minLen lens = .ok i) :
    ∃ hi : i < lens.length, 0 < lens[i] ∧
      (∀ j (hj : j < lens.length), 0 < lens[j] → lens[i] ≤ lens[j]) ∧
      (∀ j (hj : j < i), 0 < lens[j] → lens[i] < lens[j]) := by
  rcases minLen_cases lens with ⟨_, h'⟩ | ⟨_, _, h'⟩ | ⟨i', hi, h1, h2, h3, h'⟩ <;> rw [h'] at h
  · cases h
  · cases h
  · cases h; exact ⟨hi, h1, h2, h3⟩

theorem minLen_allEmpty_iff (lens : List Int) :
    minLen lens = .error .allEmpty ↔ lens ≠ [] ∧ ∀ j (hj : j < lens.length), lens[j] ≤ 0 := by
  rcases minLen_cases lens with ⟨rfl, h⟩ | ⟨hne, hall, h⟩ | ⟨i, hi, hp, _, _, h⟩ <;> rw [h]
  · simp
  · exact ⟨fun _ => ⟨hne, hall⟩, fun _ => rfl⟩
  · exact ⟨fun h => (nomatch h), fun ⟨_, hall⟩ => by have := hall i hi; omega⟩

theorem minLen_ok_iff (lens : List Int) :
    (∃ i, minLen lens = .ok i) ↔ ∃ j, ∃ hj : j < lens.length, 0 < lens[j] := by
  rcases minLen_cases lens with ⟨rfl, h⟩ | ⟨hne, hall, h⟩ | ⟨i, hi, hp, _, _, h⟩ <;> rw [h]
  · simp
  · exact ⟨fun ⟨_, h⟩ => (nomatch h), fun ⟨j, hj, hp⟩ => by have := hall j hj; omega⟩
  · exact ⟨fun _ => ⟨i, hi, hp⟩, fun _ => ⟨i, rfl⟩⟩

theorem minLen_spec (lens : List Int) :
    (∀ i, minLen lens = .ok i → ∃ hi : i < lens.length, 0 < lens[i] ∧
        (∀ j (hj : j < lens.length), 0 < lens[j] → lens[i] ≤ lens[j]) ∧
        (∀ j (hj : j < i), 0 < lens[j] → lens[i] < lens[j])) ∧
    (minLen lens = .error .allEmpty ↔ lens ≠ [] ∧ ∀ j (hj : j < lens.length), lens[j] ≤ 0) ∧
    (minLen lens = .error .noItems ↔ lens = []) ∧
    ((∃ i, minLen lens = .ok i) ↔ ∃ j, ∃ hj : j < lens.length, 0 < lens[j]) :=
  ⟨minLen_ok lens, minLen_allEmpty_iff lens, minLen_noItems_iff lens, minLen_ok_iff lens⟩

example : minLen [0, 3, 1, 1] = .ok 2 := by decide
example : minLen [0, -4] = .error .allEmpty := by decide
example : minLen [] = .error .noItems := by decide

/-! ## Len / Register / Count -/

theorem total_eq_sum (lens : List Int) : total lens = lens.sum := by
  rw [total, List.sum_eq_foldl]

theorem total_nonneg (lens : List Int) (hnn : ∀ l ∈ lens, 0 ≤ l) : 0 ≤ total lens := by
  rw [total_eq_sum]
  induction lens with
  | nil => simp
  | cons x xs ih =>
    have := hnn x (by simp)
    have := ih (fun l hl => hnn l (by simp [hl]))
    simp; omega

theorem count_register (lens : List Int) (l : Int) : count (register lens l) = count lens + 1 := by
  simp [count, register]

theorem total_register (lens : List Int) (l : Int) : total (register lens l) = total lens + l := by
  simp [total_eq_sum, register]

theorem register_getElem (lens : List Int) (l : Int) (j : Nat) (hj : j < lens.length) :
    (register lens l)[j]'(by simp [register]; omega) = lens[j] := by
  simp [register, hj]

example : total [1, 2, 3] = 6 := by decide

/-! ## UnregisterItem -/

theorem unregister_absent (lens : List Int) (rr i : Nat) (h : lens.length ≤ i) :
    unregister lens rr i = (lens, rr) := by
  simp [unregister]; omega

theorem count_unregister (lens : List Int) (rr i : Nat) (h : i < lens.length) :
    count (unregister lens rr i).1 + 1 = count lens := by
  simp [unregister, h, count]; omega

/-- `UnregisterItem` keeps the cursor invariant that `GetRoundRobinItem` needs in order not to index out of range. -/
theorem unregister_cursor (lens : List Int) (rr i : Nat) (hrr : rr < lens.length ∨ lens = []) :
    (unregister lens rr i).2 < (unregister lens rr i).1.length ∨ (unregister lens rr i).1 = [] := by
  unfold unregister
  split
  · rw [← List.length_eq_zero_iff]
    simp only [List.length_dropLast, List.length_set]
    split <;> omega
  · exact hrr

/-- No other queue changes its index, and none is lost or duplicated. -/
theorem unregister_getElem (lens : List Int) (rr i j : Nat) (h : i < lens.length)
    (hj : j < lens.length - 1) :
    (unregister lens rr i).1[j]? = if j = i then lens[lens.length - 1]? else lens[j]? := by
  have hl : lens.length - 1 < lens.length := by omega
  simp only [unregister, h, if_true, List.getElem?_dropLast, List.length_set, hj,
    List.getElem?_set, List.getD_eq_getElem?_getD, List.getElem?_eq_getElem hl, Option.getD_some, eq_comm (a := i)]

theorem sum_set (l : List Int) (i : Nat) (h : i < l.length) (v : Int) :
    (l.set i v).sum + l[i] = l.sum + v := by
  induction l generalizing i with
  | nil => simp at h
  | cons x xs ih =>
    cases i with
    | zero => simp only [List.set_cons_zero, List.sum_cons, List.getElem_cons_zero]; omega
    | succ i =>
      have := ih i (Nat.lt_of_succ_lt_succ h)
      simp only [List.set_cons_succ, List.sum_cons, List.getElem_cons_succ]; omega

theorem sum_dropLast (l : List Int) (h : l ≠ []) : l.dropLast.sum + l.getLast h = l.sum := by
  conv => rhs; rw [← List.dropLast_concat_getLast h, List.sum_append]
  simp

theorem total_unregister (lens : List Int) (rr i : Nat) (h : i < lens.length) :
    total (unregister lens rr i).1 + lens[i] = total lens := by
  have hl : lens.length - 1 < lens.length := by omega
  have hne : lens.set i (lens.getD (lens.length - 1) 0) ≠ [] := by
    rw [Ne, List.set_eq_nil_iff]; rintro rfl; exact absurd h (Nat.not_lt_zero _)
  -- also when `i` is the last slot (`ite_self`)
  have hlast : (lens.set i (lens.getD (lens.length - 1) 0)).getLast hne = lens.getD (lens.length - 1) 0 := by
    rw [List.getLast_eq_getElem, List.getElem_set]
    simp only [List.length_set, List.getD_eq_getElem?_getD, List.getElem?_eq_getElem hl, Option.getD_some, ite_self]
  have h1 := sum_dropLast _ hne
  have h2 := sum_set lens i h (lens.getD (lens.length - 1) 0)
  simp only [unregister, h, if_true, total_eq_sum]
  omega

example : unregister [5, 6, 7, 8] 2 1 = ([5, 8, 7], 0) := by decide
example : unregister [5, 6, 7, 8] 0 1 = ([5, 8, 7], 0) := by decide
example : unregister [5, 6, 7, 8] 1 3 = ([5, 6, 7], 1) := by decide
example : unregister [5] 0 0 = ([], 0) := by decide

/-! ## queueManager.next -/

theorem next_roundRobin (lens : List Int) (rr : Nat) :
    next strategyRoundRobin lens rr =
      (liftErr ((roundRobin lens rr).1),
       (roundRobin lens rr).2) := by
  simp [next]

theorem next_maxLen (lens : List Int) (rr : Nat) :
    next strategyMaxLen lens rr =
      (liftErr (maxLen lens), rr) := by
  simp [next, strategyMaxLen, strategyRoundRobin]

theorem next_minLen (lens : List Int) (rr : Nat) :
    next strategyMinLen lens rr =
      (liftErr (minLen lens), rr) := by
  simp [next, strategyMinLen, strategyMaxLen, strategyRoundRobin]

theorem next_invalid (s : Nat) (hs : 2 < s) (lens : List Int) (rr : Nat) :
    next s lens rr = (.error .invalidStrategy, rr) := by
  have h0 : s ≠ strategyRoundRobin := by simp [strategyRoundRobin]; omega
  have h1 : s ≠ strategyMaxLen := by simp [strategyMaxLen]; omega
  have h2 : s ≠ strategyMinLen := by simp [strategyMinLen]; omega
  simp [next, h0, h1, h2]

example : next strategyMinLen [0, 3, 1] 2 = (.ok 2, 2) := by decide
example : next 3 [0, 3, 1] 2 = (.error .invalidStrategy, 2) := by decide

/-! ## Fairness of round robin over runs of the machine `step` (C15) -/

def St.WF (s : St) : Prop := s.served.length = s.lens.length ∧ s.rr < s.lens.length

def NonemptyAtSelects (i : Nat) : St → List Ev → Prop
  | _, [] => True
  | s, e :: es => (e = .select → 0 < s.lenOf i) ∧ NonemptyAtSelects i (step s e) es

instance (s : St) : Decidable s.WF := by unfold St.WF; infer_instance

instance decNonemptyAtSelects (i : Nat) :
    (s : St) → (evs : List Ev) → Decidable (NonemptyAtSelects i s evs)
  | _, [] => isTrue trivial
  | s, e :: es =>
    have := decNonemptyAtSelects i (step s e) es
    inferInstanceAs (Decidable ((e = .select → 0 < s.lenOf i) ∧ NonemptyAtSelects i (step s e) es))

/-- What the recursive definition (the form `decide` evaluates) says. -/
theorem nonemptyAtSelects_iff (i : Nat) (evs : List Ev) : ∀ s : St,
    NonemptyAtSelects i s evs ↔
      ∀ pre post, evs = pre ++ Ev.select :: post → 0 < (run s pre).lenOf i := by
  induction evs with
  | nil => intro s; simp [NonemptyAtSelects]
  | cons e es ih =>
    intro s
    simp only [NonemptyAtSelects]
    rw [ih]
    constructor
    · rintro ⟨h1, h2⟩ pre post heq
      cases pre with
      | nil =>
        simp at heq
        exact h1 heq.1
      | cons p pre =>
        simp at heq
        obtain ⟨rfl, rfl⟩ := heq
        exact h2 pre post rfl
    · intro h
      refine ⟨?_, ?_⟩
      · intro he; subst he; exact h [] es rfl
      · intro pre post heq; subst heq; exact h (e :: pre) post rfl

theorem map_lens_getElem (s : St) (t : Nat) (ht : t < (s.lens.map Int.ofNat).length) :
    (s.lens.map Int.ofNat)[t] = (s.lenOf t : Int) := by
  have ht' : t < s.lens.length := by simpa using ht
  simp [St.lenOf, ht']

/-- `roundRobin_cases` for the machine's `select`. -/
theorem select_cases (s : St) (hwf : s.WF) :
    (∃ q, q < s.lens.length ∧ 0 < s.lenOf q ∧
      (∀ t, t < s.lens.length → 0 < s.lenOf t →
        dist s.lens.length s.rr q ≤ dist s.lens.length s.rr t) ∧
      step s .select = { lens := s.lens.set q (s.lenOf q - 1), rr := (q + 1) % s.lens.length,
                         served := s.served.set q (s.servedOf q + 1) }) ∨
    ((∀ t, t < s.lens.length → s.lenOf t = 0) ∧ step s .select = s) := by
  have hrr : s.rr < (s.lens.map Int.ofNat).length := by rw [List.length_map]; exact hwf.2
  have key := roundRobin_cases _ _ hrr
  simp only [List.length_map, map_lens_getElem] at key
  rcases key with ⟨q, hq, h1, h2, h3⟩ | ⟨h1, h2⟩
  · refine .inl ⟨q, hq, by omega, fun t ht hpos => Nat.le_of_not_lt fun hlt => ?_, by simp only [step, h3]⟩
    have := h2 t ht hlt; omega
  · exact .inr ⟨fun t ht => by have := h1 t ht; omega, by simp only [step, h2]⟩

theorem getD_set (l : List Nat) (q t v : Nat) (hq : q < l.length) :
    (l.set q v).getD t 0 = if t = q then v else l.getD t 0 := by
  simp only [List.getD_eq_getElem?_getD, List.getElem?_set]
  by_cases h : q = t
  · subst h; simp [hq]
  · have : ¬ t = q := fun h' => h h'.symm
    simp [h, this]

theorem step_wf (s : St) (hwf : s.WF) (e : Ev) : (step s e).WF ∧
    (step s e).lens.length = s.lens.length := by
  cases e with
  | enq k => simpa [step, St.WF] using hwf
  | select =>
    rcases select_cases s hwf with ⟨q, hq, _, _, h⟩ | ⟨_, h⟩ <;> rw [h]
    · simpa [St.WF] using ⟨hwf.1, Nat.mod_lt _ (Nat.zero_lt_of_lt hq)⟩
    · exact ⟨hwf, rfl⟩

theorem run_wf (evs : List Ev) : ∀ (s : St), s.WF → (run s evs).WF ∧
    (run s evs).lens.length = s.lens.length := by
  induction evs with
  | nil => intro s h; exact ⟨h, rfl⟩
  | cons e es ih =>
    intro s h
    have h1 := step_wf s h e
    have h2 := ih (step s e) h1.1
    exact ⟨h2.1, by rw [← h1.2]; exact h2.2⟩

theorem step_served_mono (s : St) (e : Ev) (t : Nat) : s.servedOf t ≤ (step s e).servedOf t := by
  cases e with
  | enq k => simp [step, St.servedOf]
  | select =>
    simp only [step]
    generalize roundRobin (s.lens.map Int.ofNat) s.rr = r
    obtain ⟨r1, r2⟩ := r
    cases r1 with
    | error e => simp [St.servedOf]
    | ok q =>
      simp only [St.servedOf, List.getD_eq_getElem?_getD, List.getElem?_set]
      split
      · next h =>
        subst h
        split
        · simp
        · next hq => simp [List.getElem?_eq_none (Nat.le_of_not_lt hq)]
      · omega

theorem run_served_mono (evs : List Ev) : ∀ (s : St) (t : Nat),
    s.servedOf t ≤ (run s evs).servedOf t := by
  induction evs with
  | nil => intro s t; exact Nat.le_refl _
  | cons e es ih =>
    intro s t
    exact Nat.le_trans (step_served_mono s e t) (ih (step s e) t)

/-- The cursor's travel. One event moves the cursor forward by some `a` (`1 ≤ a` for a `select`),
and seen from any queue `i` that is non-empty if the event is a `select`, `n * served i - dist rr i`
grows by exactly `a`: the cursor either comes `a` closer to `i` or serves `i` and lands `n - 1` away. -/
theorem step_travel (s : St) (hwf : s.WF) (e : Ev) :
    ∃ a, ∀ i, i < s.lens.length → (e = .select → 0 < s.lenOf i) →
      (e = .select → 1 ≤ a) ∧
      dist s.lens.length (step s e).rr i + a + s.lens.length * s.servedOf i =
        dist s.lens.length s.rr i + s.lens.length * (step s e).servedOf i := by
  cases e with
  | enq k => exact ⟨0, fun i _ _ => ⟨fun h => (nomatch h), rfl⟩⟩
  | select =>
    rcases select_cases s hwf with ⟨q, hq, _, hmin, h⟩ | ⟨hall, _⟩
    · refine ⟨dist s.lens.length s.rr q + 1, fun i hi hpos => ⟨fun _ => by omega, ?_⟩⟩
      have hle := hmin i hi (hpos rfl)
      have hda := dist_after hwf.2 hq hi
      rw [h]
      show dist _ ((q + 1) % _) i + _ + _ * s.served.getD i 0 = _ + _ * ((s.served.set q (s.served.getD q 0 + 1)).getD i 0)
      rw [getD_set _ q i _ (by rw [hwf.1]; exact hq)]
      by_cases hiq : i = q
      · subst hiq
        rw [if_pos (Nat.le_refl _)] at hda
        rw [if_pos rfl, Nat.mul_succ]; omega
      · have : dist s.lens.length s.rr q ≠ dist s.lens.length s.rr i :=
          fun h => hiq (dist_inj hwf.2 hq hi h).symm
        rw [if_neg (by omega)] at hda
        rw [if_neg hiq]; omega
    · exact ⟨1, fun i hi hpos => absurd (hpos rfl) (by rw [hall i hi]; omega)⟩

/-- `step_travel` summed over a run: the travel `a` is at least the number of selects, and the same for every queue
that is non-empty at every `select`. -/
theorem run_travel (evs : List Ev) : ∀ (s : St), s.WF →
    ∃ a, ∀ i, i < s.lens.length → NonemptyAtSelects i s evs →
      numSelects evs ≤ a ∧
      dist s.lens.length (run s evs).rr i + a + s.lens.length * s.servedOf i =
        dist s.lens.length s.rr i + s.lens.length * (run s evs).servedOf i := by
  induction evs with
  | nil => intro s _; exact ⟨0, fun i _ _ => ⟨Nat.le_refl _, rfl⟩⟩
  | cons e es ih =>
    intro s hwf
    obtain ⟨hwf', hlen⟩ := step_wf s hwf e
    obtain ⟨a, ha⟩ := step_travel s hwf e
    obtain ⟨b, hb⟩ := ih (step s e) hwf'
    refine ⟨a + b, fun i hi hne => ?_⟩
    obtain ⟨h1, h2⟩ := ha i hi hne.1
    obtain ⟨h3, h4⟩ := hb i (by omega) hne.2
    rw [hlen] at h4
    show _ ∧ dist _ (run (step s e) es).rr i + _ + _ = _ + _ * (run (step s e) es).servedOf i
    refine ⟨?_, by omega⟩
    cases e with
    | enq k =>
      have : numSelects (.enq k :: es) = numSelects es := by simp [numSelects]
      omega
    | select =>
      have : numSelects (.select :: es) = numSelects es + 1 := by simp [numSelects]
      have := h1 rfl
      omega

/-- A queue that is non-empty whenever a `select` fires is served once in every `n` (= number of queues) selects:
the cursor travels at least one place per select, and `n` places bring it past `i`. -/
theorem rr_served_rate (s : St) (hwf : s.WF) (i : Nat) (hi : i < s.lens.length)
    (evs : List Ev) (hne : NonemptyAtSelects i s evs) :
    s.servedOf i + numSelects evs / s.lens.length ≤ (run s evs).servedOf i := by
  obtain ⟨a, ha⟩ := run_travel evs s hwf
  obtain ⟨h1, h2⟩ := ha i hi hne
  have hn : 0 < s.lens.length := Nat.zero_lt_of_lt hi
  have := dist_lt (rr := s.rr) (i := i) hn
  have := Nat.div_mul_le_self (numSelects evs) s.lens.length
  refine Nat.le_of_lt_succ (Nat.lt_of_mul_lt_mul_left (a := s.lens.length) ?_)
  rw [Nat.mul_add, Nat.mul_succ, Nat.mul_comm _ (_ / _)]
  omega

/-- C15, no starvation: `rr_served_rate` at `n` selects. -/
theorem rr_no_starvation (s : St) (hwf : s.WF) (i : Nat) (hi : i < s.lens.length)
    (evs : List Ev) (hne : NonemptyAtSelects i s evs) (hn : s.lens.length ≤ numSelects evs) :
    s.servedOf i + 1 ≤ (run s evs).servedOf i :=
  Nat.le_trans (Nat.add_le_add_left (Nat.div_pos hn (Nat.zero_lt_of_lt hi)) _) (rr_served_rate s hwf i hi evs hne)

-- rr_no_starvation: 3 queues, cursor just past queue 0, three selects: queue 0 is served
-- exactly at the third one.
example :
    let s : St := { lens := [1, 2, 1], rr := 1, served := [0, 0, 0] }
    let evs : List Ev := [.select, .enq 2, .select, .select]
    s.WF ∧ NonemptyAtSelects 0 s evs ∧ s.lens.length ≤ numSelects evs ∧
      (run s evs).servedOf 0 = s.servedOf 0 + 1 := by decide
-- the bound `n` is tight: after n - 1 selects queue 0 has not been served yet.
example :
    let s : St := { lens := [1, 2, 1], rr := 1, served := [0, 0, 0] }
    let evs : List Ev := [.select, .enq 2, .select]
    s.WF ∧ NonemptyAtSelects 0 s evs ∧ numSelects evs = s.lens.length - 1 ∧
      (run s evs).servedOf 0 = s.servedOf 0 := by decide
-- the hypothesis matters: a queue that is empty at the selects is (of course) not served.
example :
    let s : St := { lens := [0, 2, 1], rr := 1, served := [0, 0, 0] }
    let evs : List Ev := [.select, .select, .select]
    s.WF ∧ ¬ NonemptyAtSelects 0 s evs ∧ (run s evs).servedOf 0 = 0 := by decide

/-- Two queues that saw the same travel `a` were served equally often, up to one. -/
theorem share_of_travel {n a di di' dj dj' si si' sj sj' : Nat}
    (hi : di' + a + n * si = di + n * si') (hj : dj' + a + n * sj = dj + n * sj')
    (h1 : di' < n) (h2 : dj < n) : si' + sj ≤ sj' + si + 1 := by
  have : n * (si' + sj) < n * (sj' + si + 2) := by simp only [Nat.mul_add]; omega
  have := Nat.lt_of_mul_lt_mul_left this
  omega

/-- C15, equal shares: the two queues see the same travel (`run_travel`, `share_of_travel`). -/
theorem rr_equal_share (s : St) (hwf : s.WF) (i j : Nat) (hi : i < s.lens.length)
    (hj : j < s.lens.length) (evs : List Ev)
    (hni : NonemptyAtSelects i s evs) (hnj : NonemptyAtSelects j s evs) :
    ((run s evs).servedOf i - s.servedOf i) ≤ ((run s evs).servedOf j - s.servedOf j) + 1 ∧
    ((run s evs).servedOf j - s.servedOf j) ≤ ((run s evs).servedOf i - s.servedOf i) + 1 := by
  obtain ⟨a, ha⟩ := run_travel evs s hwf
  obtain ⟨_, h1⟩ := ha i hi hni
  obtain ⟨_, h2⟩ := ha j hj hnj
  have hn : 0 < s.lens.length := Nat.zero_lt_of_lt hi
  have := share_of_travel h1 h2 (dist_lt hn) (dist_lt hn)
  have := share_of_travel h2 h1 (dist_lt hn) (dist_lt hn)
  have := run_served_mono evs s i
  have := run_served_mono evs s j
  omega

theorem rr_equal_share_int (s : St) (hwf : s.WF) (i j : Nat) (hi : i < s.lens.length)
    (hj : j < s.lens.length) (evs : List Ev)
    (hni : NonemptyAtSelects i s evs) (hnj : NonemptyAtSelects j s evs) :
    ((((run s evs).servedOf i : Int) - s.servedOf i) -
      (((run s evs).servedOf j : Int) - s.servedOf j)).natAbs ≤ 1 := by
  have := rr_equal_share s hwf i j hi hj evs hni hnj
  have := run_served_mono evs s i
  have := run_served_mono evs s j
  omega

-- rr_equal_share: queues 0 and 2 both non-empty at each of 4 selects, queue 1 joins late;
-- the shares are 2 and 1: the difference 1 is reached.
example :
    let s : St := { lens := [3, 0, 3], rr := 0, served := [5, 5, 5] }
    let evs : List Ev := [.select, .enq 1, .select, .select, .select]
    s.WF ∧ NonemptyAtSelects 0 s evs ∧ NonemptyAtSelects 2 s evs ∧
      (run s evs).served = [7, 6, 6] := by decide

#print axioms rr_spec
#print axioms rr_ok_offset
#print axioms rr_ok_iff
#print axioms rr_allEmpty_iff
#print axioms rr_allEmpty_cursor
#print axioms rr_cursor_lt
#print axioms rr_noItems_iff
#print axioms maxLen_spec
#print axioms maxLen_ok
#print axioms maxLen_ok_pos
#print axioms maxLen_allEmpty_iff
#print axioms maxLen_allEmpty_iff_of_nonneg
#print axioms maxLen_ok_iff_of_nonneg
#print axioms minLen_spec
#print axioms minLen_ok
#print axioms minLen_allEmpty_iff
#print axioms minLen_ok_iff
#print axioms total_eq_sum
#print axioms unregister_cursor
#print axioms unregister_getElem
#print axioms total_unregister
#print axioms count_unregister
#print axioms nonemptyAtSelects_iff
#print axioms rr_no_starvation
#print axioms rr_equal_share
#print axioms rr_equal_share_int

end Manager
end VarmqVerif
