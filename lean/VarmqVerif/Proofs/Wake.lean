/-
  Theorems about the model `Wake` (Model/Wake.lean): the wake-up of WaitUntilFinished callers, for every
  reachable state (any number of goroutines and events).

  The hypothesis `0 < conc` of the theorems about waiters concerns the state in question only; earlier values
  of conc are arbitrary.  It is needed (`no_waiter_stranded_conc0_false`, `parked_covered_conc0_false`, `exConc0`): with a
  concurrency limit 0 no state is dispatchable, nobody ever owes anything, and a Pause strands a waiter
  that saw running ∧ Len() > 0.  The Go code never stores 0: withSafeConcurrency clamps
  (`Config.safe_conc_never_zero`).
  The first guard of `wPark` ("Cond.Wait by the event loop goroutine") is needed as well: without it `exLoopWaits`
  would park the event-loop goroutine in an idle state, and `parked_bcComing`, `no_waiter_stranded` would be false.
  The inductive invariant is `Inv` in Proofs/WakeLemmas.lean.
-/
import VarmqVerif.Proofs.WakeLemmas

namespace VarmqVerif
namespace Wake

/-- `State` has function fields, so it has no `DecidableEq`: the examples compare this projection. -/
structure View where
  ws : Nat
  cur : Nat
  conc : Nat
  qlen : Nat
  tok : Bool
  nOwes : Nat
  nOwesBc : Nat
  dph : DPh
  mx : Option Nat
  nParked : Nat
  deriving DecidableEq, Repr

def view (s : State) : View := ⟨s.ws, s.cur, s.conc, s.qlen, s.tok, s.nOwes, s.nOwesBc, s.dph, s.mx, s.nParked⟩

def runProj {α : Type} (f : State → α) (c : Nat) (evs : List Ev) : Option α :=
  match run (init c) evs with
  | .ok s => some (f s)
  | .error _ => none

-- the examples name a reachable state by its run, `reach_run (.init c) evs rfl`, and `decide` what they claim of it
instance (s : State) : Decidable (Dispatchable s) := inferInstanceAs (Decidable (_ ∧ _))
instance (s : State) : Decidable (CondTrue s) := inferInstanceAs (Decidable (_ ∨ _))
instance (s : State) : Decidable (Idle s) := inferInstanceAs (Decidable (_ ∧ _))

/-- conc = 1.  A job is dispatched and in flight (events 1–15, the event loop parks with cur = 1).
    Goroutine 9 calls WaitUntilFinished: locks, reads running, Len() = 0, cur = 1, and parks (16–20).
    The runner 4 releases to 0 (21: it now owes a notify() and a Broadcast), locks, broadcasts to
    the one parked goroutine, unlocks, notifies (22–25).  9 wakes, re-locks, re-evaluates
    (running, 0, 0) and returns (26–31).  The event loop takes the token, finds nothing to do and
    ends its activation with its own Broadcast to nobody (32–40). -/
def exWait : List Ev := [
  .stStatus 7 running, .notify 7 true, .enq 5, .notify 5 false,
  .recvTok 0, .dStatus 0 running, .dCur 0 0, .dConc 0 1, .dLen 0 1, .dCasOk 0, .dDeq 0,
  .dStatus 0 running, .dCur 0 1, .dConc 0 1, .dCur 0 1,
  .lockMx 9, .wStatus 9 running, .wLen 9 0, .wCur 9 1, .wPark 9,
  .relX 4 0, .lockMx 4, .bcast 4 1, .unlockMx 4, .notify 4 true,
  .wWake 9, .lockMx 9, .wStatus 9 running, .wLen 9 0, .wCur 9 0, .unlockMx 9,
  .recvTok 0, .dStatus 0 running, .dCur 0 0, .dConc 0 1, .dLen 0 0, .dCur 0 0,
  .lockMx 0, .bcast 0 0, .unlockMx 0]

example : exWait.length = 40 := rfl
-- 15: the job is in flight, the event loop parked
example : runProj view 1 (exWait.take 15) = some ⟨1, 1, 1, 0, false, 0, 0, .parked, none, 0⟩ := by decide
-- 19: goroutine 9 holds the mutex and has decided to park
example : runProj (fun s => (s.wph 9, s.mx)) 1 (exWait.take 19) = some (.willPark, some 9) := by decide
-- 20: parked; the condition is still true (cur = 1)
example : runProj (fun s => (s.wph 9, view s)) 1 (exWait.take 20)
    = some (.parked, ⟨1, 1, 1, 0, false, 0, 0, .parked, none, 1⟩) := by decide
-- 21: the release made the condition false; a Broadcast (and a notify) is owed by goroutine 4
example : runProj (fun s => (s.owesBc 4, view s)) 1 (exWait.take 21)
    = some (1, ⟨1, 0, 1, 0, false, 1, 1, .parked, none, 1⟩) := by decide
-- 23: the Broadcast signalled goroutine 9
example : runProj (fun s => (s.wph 9, view s)) 1 (exWait.take 23)
    = some (.signalled, ⟨1, 0, 1, 0, false, 1, 0, .parked, some 4, 0⟩) := by decide
-- 30: re-evaluated: the condition is false, 9 will return
example : runProj (fun s => (s.wph 9, s.mx)) 1 (exWait.take 30) = some (.willReturn, some 9) := by decide
-- 40: at rest, nobody parked
example : runProj (fun s => (s.wph 9, view s)) 1 exWait
    = some (.idle, ⟨1, 0, 1, 0, false, 0, 0, .parked, none, 0⟩) := by decide

/-- conc = 1.  Start and one Add have happened, the token is in the channel, the event loop has not
    run yet.  Goroutine 9 (WaitUntilFinished) locks and reads status = running (5, 6); goroutine 8
    pauses the worker (7); 9 reads Len() = 1 and parks (8, 9) although its condition
    (paused ∧ cur = 0) is false by now.  The event loop takes the token, sees `paused`, leaves the
    loop, loads cur = 0 and so owes the post-loop Broadcast (10–12), which frees 9 (13–15);
    9 re-evaluates (paused, cur = 0) and returns (16–20). -/
def exPause : List Ev := [
  .stStatus 7 running, .notify 7 true, .enq 5, .notify 5 false,
  .lockMx 9, .wStatus 9 running, .stStatus 8 paused, .wLen 9 1, .wPark 9,
  .recvTok 0, .dStatus 0 paused, .dCur 0 0,
  .lockMx 0, .bcast 0 1, .unlockMx 0,
  .wWake 9, .lockMx 9, .wStatus 9 paused, .wCur 9 0, .unlockMx 9]

example : exPause.length = 20 := rfl
-- 7: 9 has read `running`, the worker is paused: only the token covers 9
example : runProj (fun s => (s.wph 9, view s)) 1 (exPause.take 7)
    = some (.sawStatus running, ⟨2, 0, 1, 1, true, 0, 0, .parked, some 9, 0⟩) := by decide
-- 9: parked with a false condition; the token covers it
example : runProj (fun s => (s.wph 9, view s)) 1 (exPause.take 9)
    = some (.parked, ⟨2, 0, 1, 1, true, 0, 0, .parked, none, 1⟩) := by decide
-- 11: the token is consumed; the active event loop covers it
example : runProj view 1 (exPause.take 11) = some ⟨2, 0, 1, 1, false, 0, 0, .exiting, none, 1⟩ := by decide
-- 12: the event loop owes the Broadcast
example : runProj (fun s => (s.owesBc 0, view s)) 1 (exPause.take 12)
    = some (1, ⟨2, 0, 1, 1, false, 0, 1, .parked, none, 1⟩) := by decide
-- 14: signalled
example : runProj (fun s => (s.wph 9, view s)) 1 (exPause.take 14)
    = some (.signalled, ⟨2, 0, 1, 1, false, 0, 0, .parked, some 0, 0⟩) := by decide
-- 20: returned; the worker is paused with one job queued, nobody parked
example : runProj (fun s => (s.wph 9, view s)) 1 exPause
    = some (.idle, ⟨2, 0, 1, 1, false, 0, 0, .parked, none, 0⟩) := by decide

/-- conc = 1, pause() = `status.Store(paused); releaseWaiters(cur.Load())`.  Start and one Add have
    happened, the token is pending, the event loop has not run yet.  Goroutine 9 sees running,
    Len() = 1 and parks (5–8).  Goroutine 8 pauses: stores `paused` (9), loads cur = 0 and so owes a
    Broadcast (10), locks, broadcasts to the one parked goroutine, unlocks (11–13).  9 wakes,
    re-evaluates (paused, cur = 0) and returns (14–18), before the event loop has even taken the
    token; the event loop's own post-loop Broadcast then reaches nobody (19–24). -/
def exPauseBc : List Ev := [
  .stStatus 7 running, .notify 7 true, .enq 5, .notify 5 false,
  .lockMx 9, .wStatus 9 running, .wLen 9 1, .wPark 9,
  .stStatus 8 paused, .pCur 8 0, .lockMx 8, .bcast 8 1, .unlockMx 8,
  .wWake 9, .lockMx 9, .wStatus 9 paused, .wCur 9 0, .unlockMx 9,
  .recvTok 0, .dStatus 0 paused, .dCur 0 0, .lockMx 0, .bcast 0 0, .unlockMx 0]

example : exPauseBc.length = 24 := rfl
-- 8: parked on a running worker with a job queued (dispatchable: the pending token covers that)
example : runProj (fun s => (s.wph 9, view s)) 1 (exPauseBc.take 8)
    = some (.parked, ⟨1, 0, 1, 1, true, 0, 0, .parked, none, 1⟩) := by decide
-- 10: paused; pause() loaded cur = 0 and owes the Broadcast
example : runProj (fun s => (s.owesBc 8, view s)) 1 (exPauseBc.take 10)
    = some (1, ⟨2, 0, 1, 1, true, 0, 1, .parked, none, 1⟩) := by decide
-- 12: the Broadcast signalled goroutine 9
example : runProj (fun s => (s.wph 9, view s)) 1 (exPauseBc.take 12)
    = some (.signalled, ⟨2, 0, 1, 1, true, 0, 0, .parked, some 8, 0⟩) := by decide
-- 18: 9 has returned while the token is still pending
example : runProj (fun s => (s.wph 9, view s)) 1 (exPauseBc.take 18)
    = some (.idle, ⟨2, 0, 1, 1, true, 0, 0, .parked, none, 0⟩) := by decide
-- 24: at rest
example : runProj (fun s => (s.wph 9, view s)) 1 exPauseBc
    = some (.idle, ⟨2, 0, 1, 1, false, 0, 0, .parked, none, 0⟩) := by decide
-- with slots in use pause() does not broadcast (the last release will); a wrong loaded value is rejected
example : runProj (fun s => s.nOwesBc) 1 ((exWait.take 20) ++ [.stStatus 8 paused, .pCur 8 1]) = some 0 := by decide
example : runProj view 1 ((exWait.take 20) ++ [.stStatus 8 paused, .pCur 8 0]) = none := by decide

-- rejected: a Broadcast without the mutex, a Broadcast nobody owed, a Broadcast that reports the wrong
-- number of woken goroutines, Cond.Wait returning without a Broadcast, w.mx taken twice, Cond.Wait
-- after condition() = false
example : runProj view 1 ((exWait.take 21) ++ [.bcast 4 1]) = none := by decide
example : runProj view 1 ((exWait.take 20) ++ [.lockMx 4, .bcast 4 1]) = none := by decide
example : runProj view 1 ((exWait.take 22) ++ [.bcast 4 0]) = none := by decide
example : runProj view 1 ((exWait.take 20) ++ [.wWake 9]) = none := by decide
example : runProj view 1 ((exWait.take 16) ++ [.lockMx 4]) = none := by decide
example : runProj view 1 ((exWait.take 30) ++ [.wPark 9]) = none := by decide

/-- `Sig.no_lost_wakeup`; what `Sig` calls `active` is `willEval` here -/
theorem no_lost_wakeup {s : State} (hr : Reach s) (hd : Dispatchable s) :
    s.tok = true ∨ 0 < s.nOwes ∨ s.dph.willEval = true :=
  (reach_inv hr).ab.1 hd

example : ∃ s, Reach s ∧ Dispatchable s ∧ s.tok = true ∧ s.nOwes = 0 ∧ s.dph.willEval = false :=
  ⟨_, reach_run (.init 1) (exPause.take 4) rfl, by decide⟩

/-- as `Sig.stale_cur_covered` -/
theorem stale_cur_covered {s : State} {c : Nat} (hr : Reach s) (hp : s.dph = .sawCur c) (hc : s.cur < c) :
    s.tok = true ∨ 0 < s.nOwes :=
  ((reach_inv hr).ab.2 c hp).resolve_left (Nat.not_le.mpr hc)

/-- a goroutine between `w.mx.Lock()` / waking up in Cond.Wait and `Cond.Wait` / `w.mx.Unlock()`
    holds the mutex -/
theorem crit_holds_mx {s : State} (hr : Reach s) (g : Nat) (hc : (s.wph g).crit = true) : s.mx = some g :=
  (reach_inv hr).m g hc

theorem crit_exclusive {s : State} (hr : Reach s) (g g' : Nat) (hc : (s.wph g).crit = true)
    (hc' : (s.wph g').crit = true) : g = g' :=
  Option.some.inj ((crit_holds_mx hr g hc).symm.trans (crit_holds_mx hr g' hc'))

example : ∃ s, Reach s ∧ (s.wph 9).crit = true :=
  ⟨_, reach_run (.init 1) (exWait.take 19) rfl, rfl⟩

theorem owes_sum {s : State} (hr : Reach s) :
    ∃ l : List Nat, l.Nodup ∧ (∀ g, g ∉ l → s.owes g = 0) ∧ (l.map s.owes).sum = s.nOwes :=
  (reach_inv hr).gh.1

theorem owesBc_sum {s : State} (hr : Reach s) :
    ∃ l : List Nat, l.Nodup ∧ (∀ g, g ∉ l → s.owesBc g = 0) ∧ (l.map s.owesBc).sum = s.nOwesBc :=
  (reach_inv hr).gh.2


theorem nOwesBc_pos_iff {s : State} (hr : Reach s) : 0 < s.nOwesBc ↔ ∃ g, 0 < s.owesBc g :=
  sumOf_pos_iff (owesBc_sum hr)

theorem nOwes_pos_iff {s : State} (hr : Reach s) : 0 < s.nOwes ↔ ∃ g, 0 < s.owes g :=
  sumOf_pos_iff (owes_sum hr)

/-- The ghost guards of `bcast` are never hit: whoever holds w.mx and owes a Broadcast can perform
    it, waking exactly the `nParked` parked goroutines. -/
theorem bcast_enabled_counts {s : State} {g : Nat} (hr : Reach s) (hm : s.mx = some g) (ho : 0 < s.owesBc g) :
    ∃ s', step s (.bcast g s.nParked) = .ok s' := by
  have h1 : s.owesBc g ≠ 0 := Nat.ne_of_gt ho
  simp [step, hm, h1, sumOf_ne_zero (owesBc_sum hr) h1]

/-- as `Sig.notify_enabled` -/
theorem notify_enabled {s : State} (hr : Reach s) (g : Nat) : ∃ s', step s (.notify g (!s.tok)) = .ok s' := by
  have hn := sumOf_ne_zero (owes_sum hr) (g := g)
  by_cases h0 : s.owes g = 0 <;> cases ht : s.tok <;> simp [step, ht, h0, hn]

theorem nParked_counts {s : State} (hr : Reach s) :
    ∃ l : List Nat, l.Nodup ∧ (∀ g, s.wph g = .parked ↔ g ∈ l) ∧ l.length = s.nParked :=
  (reach_inv hr).pl

theorem nParked_pos_iff {s : State} (hr : Reach s) : 0 < s.nParked ↔ ∃ g, s.wph g = .parked := by
  obtain ⟨l, _, hm, hlen⟩ := nParked_counts hr
  simp only [← hlen, List.length_pos_iff_exists_mem, hm]

-- non-vacuity: a reachable state in which the mutex holder owes a Broadcast and one goroutine is parked
example : ∃ s g, Reach s ∧ s.mx = some g ∧ 0 < s.owesBc g ∧ s.nParked = 1 ∧ s.wph 9 = .parked :=
  ⟨_, 4, reach_run (.init 1) (exWait.take 22) rfl, by decide⟩

-- two goroutines owe one Broadcast each (the runner has notified but not yet got the mutex)
example : runProj (fun s => (s.owesBc 0, s.owesBc 4, s.nOwesBc)) 1
    ((exWait.take 21) ++ [.notify 4 true] ++ (exWait.drop 31).take 6)
    = some (1, 1, 2) := by decide

/-- `0 < s.nOwesBc ∨ Wk s` (Proofs/WakeLemmas.lean) written out: a Broadcast is on its way -/
def BcComing (s : State) : Prop :=
  0 < s.nOwesBc ∨ s.dph.active = true ∨ s.tok = true ∨ 0 < s.nOwes ∨ 0 < s.cur

instance (s : State) : Decidable (BcComing s) := inferInstanceAs (Decidable (_ ∨ _))

/-- Clause (C) of the invariant: while a goroutine is parked in WaitUntilFinished and not yet signalled,
    a Broadcast is on its way, whether its condition is still true or not (a true condition means slots in
    use, or dispatchable work, for which `no_lost_wakeup` makes the event loop run). -/
theorem parked_bcComing {s : State} (hr : Reach s) (hc : 0 < s.conc) (hp : 0 < s.nParked) : BcComing s :=
  (reach_inv hr).c hc hp

/-- `parked_bcComing` weakened to the form C06 states (Props/C06.lean).  False when the concurrency limit is 0, see
    `parked_covered_conc0_false`. -/
theorem parked_covered {s : State} (hr : Reach s) (hc : 0 < s.conc) (hp : 0 < s.nParked) :
    CondTrue s ∨ BcComing s :=
  .inr (parked_bcComing hr hc hp)

/-- (E), first half: the Broadcast on its way to a goroutine that has decided to park is *by somebody else* -/
theorem will_park_covered {s : State} {g : Nat} (hr : Reach s) (hc : 0 < s.conc) (hp : s.wph g = .willPark)
    (hd : s.disp ≠ some g) :
    CondTrue s ∨ s.owesBc g < s.nOwesBc ∨ s.dph.active = true ∨ s.tok = true ∨ 0 < s.nOwes ∨ 0 < s.cur :=
  .inr (((reach_inv hr).e hc g hd).1 hp)

/-- (E), second half -/
theorem saw_running_covered {s : State} {g : Nat} (hr : Reach s) (hc : 0 < s.conc)
    (hp : s.wph g = .sawStatus running) (hd : s.disp ≠ some g) :
    s.ws = running ∨ (s.owesBc g < s.nOwesBc ∨ s.dph.active = true ∨ s.tok = true ∨ 0 < s.nOwes ∨ 0 < s.cur) ∨
      (s.qlen = 0 ∧ s.cur = 0) :=
  .inr (((reach_inv hr).e hc g hd).2 hp)

-- non-vacuity: parked with a false condition, covered only by the token / only by the active event
-- loop / only by an owed Broadcast; parked with a true condition and nothing coming but cur > 0
example : ∃ s, Reach s ∧ 0 < s.conc ∧ 0 < s.nParked ∧ ¬ CondTrue s ∧
    s.nOwesBc = 0 ∧ s.dph.active = false ∧ s.tok = true ∧ s.nOwes = 0 ∧ s.cur = 0 :=
  ⟨_, reach_run (.init 1) (exPause.take 9) rfl, by decide⟩

example : ∃ s, Reach s ∧ 0 < s.conc ∧ 0 < s.nParked ∧ ¬ CondTrue s ∧
    s.nOwesBc = 0 ∧ s.dph.active = true ∧ s.tok = false ∧ s.nOwes = 0 ∧ s.cur = 0 :=
  ⟨_, reach_run (.init 1) (exPause.take 11) rfl, by decide⟩

example : ∃ s, Reach s ∧ 0 < s.conc ∧ 0 < s.nParked ∧ ¬ CondTrue s ∧
    0 < s.nOwesBc ∧ s.dph.active = false ∧ s.tok = false ∧ s.nOwes = 0 ∧ s.cur = 0 :=
  ⟨_, reach_run (.init 1) (exPause.take 12) rfl, by decide⟩

example : ∃ s, Reach s ∧ 0 < s.conc ∧ 0 < s.nParked ∧ CondTrue s ∧
    s.nOwesBc = 0 ∧ s.dph.active = false ∧ s.tok = false ∧ s.nOwes = 0 ∧ 0 < s.cur :=
  ⟨_, reach_run (.init 1) (exWait.take 20) rfl, by decide⟩

/-- C06/C03 "cannot miss the wake-up and sleep forever": in a state where nothing is going to happen
    any more on the library side, nobody is parked in WaitUntilFinished / PauseAndWait.
    False for conc = 0 (`no_waiter_stranded_conc0_false`). -/
theorem no_waiter_stranded {s : State} (hr : Reach s) (hi : Idle s) (hc : 0 < s.conc) : s.nParked = 0 := by
  obtain ⟨h1, h2, h3, h4, h5, -⟩ := hi
  exact Nat.eq_zero_of_not_pos fun hp => by
    simpa [BcComing, h1, h2, h3, h4, h5, DPh.active] using parked_bcComing hr hc hp

-- non-vacuity: idle states after somebody had parked
example : ∃ s, Reach s ∧ Idle s ∧ 0 < s.conc ∧ s.ws = running :=
  ⟨_, reach_run (.init 1) exWait rfl, by decide⟩

example : ∃ s, Reach s ∧ Idle s ∧ 0 < s.conc ∧ s.ws = paused ∧ 0 < s.qlen :=
  ⟨_, reach_run (.init 1) exPause rfl, by decide⟩

/-- `step` lets the goroutine that runs the event loop evaluate condition() (it never does in the
    Go code).  conc = 1.  The event loop 0 has reserved a slot and dequeued (cur = 1; events 1–11);
    the worker is paused (12); goroutine 0 itself locks w.mx, reads paused and cur = 1 and decides to
    park (13–15).  Still holding the mutex it releases the slot (16: result 0, it owes a Broadcast),
    broadcasts to nobody (17), leaves the loop, loads cur = 0, owes and performs the post-loop
    Broadcast, again to nobody (18–20): an idle-but-for-the-mutex state with a false condition in
    which goroutine 0 is about to park.  Its Cond.Wait (21) is rejected by the first guard of
    `wPark`; without that guard `no_waiter_stranded` would be false. -/
def exLoopWaits : List Ev := [
  .stStatus 7 running, .notify 7 true, .enq 5, .notify 5 false,
  .recvTok 0, .dStatus 0 running, .dCur 0 0, .dConc 0 1, .dLen 0 1, .dCasOk 0, .dDeq 0,
  .stStatus 8 paused,
  .lockMx 0, .wStatus 0 paused, .wCur 0 1,
  .dRel 0 0, .bcast 0 0, .dStatus 0 paused, .dCur 0 0, .bcast 0 0,
  .wPark 0]

example : exLoopWaits.length = 21 := rfl
example : runProj (fun s => (s.wph 0, view s)) 1 (exLoopWaits.take 20)
    = some (.willPark, ⟨2, 0, 1, 0, false, 0, 0, .parked, some 0, 0⟩) := by decide
example : runProj view 1 exLoopWaits = none := by decide

/-- the same through `sawStatus running`: goroutine 0 locks and reads `running` (14, 15), the worker
    is paused (16), 0 releases, broadcasts, leaves the loop, broadcasts (17–21), reads Len() = 1
    (22); its Cond.Wait (23) is rejected.  This is why (E) excludes the event loop. -/
def exLoopWaits' : List Ev := [
  .stStatus 7 running, .notify 7 true, .enq 5, .notify 5 false, .enq 5, .notify 5 false,
  .recvTok 0, .dStatus 0 running, .dCur 0 0, .dConc 0 1, .dLen 0 2, .dCasOk 0, .dDeq 0,
  .lockMx 0, .wStatus 0 running,
  .stStatus 8 paused,
  .dRel 0 0, .bcast 0 0, .dStatus 0 paused, .dCur 0 0, .bcast 0 0,
  .wLen 0 1, .wPark 0]

example : runProj (fun s => (s.wph 0, view s)) 1 (exLoopWaits'.take 22)
    = some (.willPark, ⟨2, 0, 1, 1, false, 0, 0, .parked, some 0, 0⟩) := by decide
example : runProj view 1 exLoopWaits' = none := by decide

/-- (E) is false for the event-loop goroutine: the hypothesis `disp ≠ some g` cannot be dropped. -/
theorem will_park_covered_loop_false :
    ∃ s g, Reach s ∧ 0 < s.conc ∧ s.wph g = .willPark ∧ s.disp = some g ∧ ¬ CondTrue s ∧ ¬ BcComing s :=
  ⟨_, 0, reach_run (.init 1) (exLoopWaits.take 20) rfl, by decide⟩

/-- The concurrency limit 0 (`stConc 3 0`; the Go code never stores it, see the head of the file): the event
    loop leaves at once (cur < conc is false) and broadcasts (6–12); goroutine 9 sees running ∧ Len() = 1 and
    parks (13–16); the worker is paused (17).  Nothing dispatchable ever existed, so nobody owes anything:
    9 sleeps with a false condition in an idle state. -/
def exConc0 : List Ev := [
  .stConc 3 0, .stStatus 7 running, .notify 7 true, .enq 5, .notify 5 false,
  .recvTok 0, .dStatus 0 running, .dCur 0 0, .dConc 0 0, .dCur 0 0, .lockMx 0, .bcast 0 0, .unlockMx 0,
  .lockMx 9, .wStatus 9 running, .wLen 9 1, .wPark 9,
  .stStatus 8 paused]

#eval runProj (fun s => (s.wph 9, view s)) 1 exConc0

theorem no_waiter_stranded_conc0_false :
    ∃ s, Reach s ∧ Idle s ∧ s.conc = 0 ∧ 0 < s.nParked ∧ ¬ CondTrue s ∧ ¬ BcComing s :=
  ⟨_, reach_run (.init 1) exConc0 rfl, by decide⟩

theorem parked_covered_conc0_false : ∃ s, Reach s ∧ 0 < s.nParked ∧ ¬ (CondTrue s ∨ BcComing s) := by
  obtain ⟨s, hr, _, _, hp, h1, h2⟩ := no_waiter_stranded_conc0_false
  exact ⟨s, hr, hp, fun h => h.elim h1 h2⟩

#print axioms no_lost_wakeup
#print axioms stale_cur_covered
#print axioms crit_holds_mx
#print axioms crit_exclusive
#print axioms owes_sum
#print axioms owesBc_sum
#print axioms nOwesBc_pos_iff
#print axioms bcast_enabled_counts
#print axioms notify_enabled
#print axioms nParked_counts
#print axioms nParked_pos_iff
#print axioms parked_covered
#print axioms will_park_covered
#print axioms saw_running_covered
#print axioms no_waiter_stranded
#print axioms will_park_covered_loop_false
#print axioms no_waiter_stranded_conc0_false
#print axioms parked_covered_conc0_false

end Wake
end VarmqVerif
