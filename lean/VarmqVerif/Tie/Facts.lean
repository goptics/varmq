import VarmqVerif.Generated.Facts
import VarmqVerif.Model.Codec
/-!
  Tie (i) of DESIGN.md §3.2: `Generated/Facts.lean` is rewritten from /repo's working tree on every
  check run; the theorems below state that the regenerated facts are the ones the models were
  written against. Each theorem speaks of the facts one model (or one argument of DESIGN.md) rests on;
  checks.json lists it under the properties that use that model, so that a change in /repo breaks the tie
  of those properties and of no other.
-/
namespace VarmqVerif.Tie
open VarmqVerif.Generated

/-- C04, C17: the segment capacities satisfy the side conditions of `Fifo.refines_list` -/
theorem fifo_caps_ok : 1 ≤ const "queues.initialBufferCapacity" ∧ 1 ≤ const "queues.chunkMaxCapacity" := by decide +kernel

/-- worker / job status enumerations are the ones of the models -/
theorem status_consts :
    const "varmq.initiated" = 0 ∧ const "varmq.running" = 1 ∧ const "varmq.paused" = 2 ∧ const "varmq.stopped" = 3 ∧
    const "varmq.created" = 0 ∧ const "varmq.queued" = 1 ∧ const "varmq.processing" = 2 ∧ const "varmq.finished" = 3 ∧
    const "varmq.closed" = 4 := by decide +kernel

/-- the signal, error and pool node channels have capacity 1 (the wake-up and hand-over arguments rely on it) -/
theorem chan_caps : const "varmq.eventLoopSignalCap" = 1 ∧ const "varmq.errorChanCap" = 1 ∧ const "varmq.poolChanCap" = 1 := by decide +kernel

theorem strategy_consts : const "varmq.RoundRobin" = 0 ∧ const "varmq.MaxLen" = 1 ∧ const "varmq.MinLen" = 2 := by decide +kernel

/-! ### Status strings (C12, C14, C16) -/
theorem job_status_strings : jobStatusStrings = Codec.statusStrings := by decide +kernel
theorem parse_status_strings : parseStatusStrings = Codec.statusStrings := by decide +kernel
theorem worker_status_strings : workerStatusStrings = [(0, "Initiated"), (1, "Running"), (2, "Paused"), (3, "Stopped")] := by decide +kernel

/-! ### C15 / C17: one Register per bind path -/
theorem register_once : registerCalls.all (fun p => p.2 == 1) = true := by decide +kernel
theorem register_paths : registerCalls.length = 16 := by decide +kernel

/-! ### Containers, idle list, queue manager and codec: the branches and calls the models transcribe -/
-- C04: heap order
theorem less_guards : guardsOf "heapQueue.Less" =
    ["if:pq.items[i].Priority==pq.items[j].Priority", "ret:pq.items[i].Index<pq.items[j].Index",
     "ret:pq.items[i].Priority<pq.items[j].Priority"] := by decide +kernel

/-- the FIFO model (Model/Fifo.lean) is a transcription of exactly these branches and calls of queue.go / chunk.go; the white-box
    differential compares behaviour on the operations it knows, this theorem reports a changed or added code path -/
theorem fifo_guards :
    guardsOf "Queue.Enqueue" = ["if:q.closed.Load()", "if:!ok", "if:q.writeChunk.Push(typedItem)", "if:q.writeChunk.Push(typedItem)"] ∧
    guardsOf "Queue.Dequeue" = ["if:ok", "if:q.readChunk.Next!=nil", "if:ok"] ∧
    guardsOf "Queue.Len" = ["if:writeCount<readCount"] ∧
    guardsOf "Chunk.Push" = ["if:c.IsFull()"] ∧ guardsOf "Chunk.Pop" = ["if:c.IsEmpty()"] := by decide +kernel
theorem fifo_calls :
    callsOf "Queue.Enqueue" = ["Load", "Lock", "Unlock", "Push", "Add", "Cap", "min", "Push", "Add"] ∧
    callsOf "Queue.Dequeue" = ["Lock", "Unlock", "Pop", "Add", "Pop", "Add", "new"] ∧
    callsOf "Queue.Purge" = ["Lock", "Unlock", "Store", "Store"] := by decide +kernel
/-- the functions of the container types (queues, chunks, heap, idle list and its nodes, manager, Response, WgCounter) are the ones the models transcribe: a new
    method that changes a representation behind the models' back is reported -/
theorem container_funcs : containerFuncs =
    ["Chunk.Cap", "Chunk.IsFull", "Chunk.Pop", "Chunk.Push", "List.Back", "List.Front", "List.Init", "List.InsertAfter", "List.Len",
     "List.NodeSlice", "List.PopBack", "List.PopBackIfLonger", "List.PopFront", "List.PushBack", "List.PushFront", "List.PushNode",
     "List.Remove", "List.insertValue", "Manager.Count", "Manager.GetMaxLenItem", "Manager.GetMinLenItem", "Manager.GetRoundRobinItem",
     "Manager.Len", "Manager.Register", "Manager.UnregisterItem", "Node.GetLastUsed", "Node.Next", "Node.Prev", "Node.Send", "Node.Serve",
     "Node.Stop", "Node.UpdateLastUsed", "PriorityQueue.Close", "PriorityQueue.Dequeue", "PriorityQueue.Enqueue",
     "PriorityQueue.Len", "PriorityQueue.Purge", "PriorityQueue.Values", "Queue.Close", "Queue.Dequeue", "Queue.Enqueue", "Queue.Len",
     "Queue.Purge", "Queue.Values", "Response.Close", "Response.Drain", "Response.Response", "Response.Send", "WgCounter.Count",
     "WgCounter.Done", "WgCounter.Wait", "heapQueue.Len", "heapQueue.Less", "heapQueue.Pop", "heapQueue.Push"] := by decide +kernel
/-- the idle list (model Pool / Trim / Reap: PopBack takes the last node, Remove refuses a node that is not linked,
    PopBackIfLonger is one step) is a transcription of these branches -/
theorem list_guards :
    guardsOf "List.Remove" = ["if:node==&l.root||node.prev==nil||node.next==nil"] ∧
    guardsOf "List.PopBack" = ["if:l.len==0", "if:last!=&l.root"] ∧
    guardsOf "List.PopBackIfLonger" = ["if:l.len==0||l.len<=min", "if:last==&l.root"] ∧
    guardsOf "List.NodeSlice" = ["for:node!=&l.root"] := by decide +kernel
/-- the worker asks the strategy and nothing else: `queueManager.next` has no branch of its own besides the switch on the
    strategy, and calls exactly the three selection functions of the Manager model -/
theorem qm_next_is_the_strategy :
    guardsOf "queueManager.next" = [] ∧
    callsOf "queueManager.next" = ["GetRoundRobinItem", "GetMaxLenItem", "GetMinLenItem"] := by decide +kernel
/-- the codec model takes encoding/json as its parameter: Json() is one Marshal of the envelope, parseToJob one Unmarshal; a
    hand-written encoder or decoder path is reported -/
theorem codec_calls :
    callsOf "job.Json" = ["ID", "Status", "Marshal"] ∧ guardsOf "job.Json" = [] ∧
    callsOf "parseToJob" = ["Unmarshal", "Errorf", "newJob", "Store", "Store", "Store", "Store", "Store", "Errorf"] ∧ guardsOf "parseToJob" = ["if:err!=nil"] := by decide +kernel
/-- the three selection functions of the queue manager (model Manager) are transcriptions of these branches -/
theorem manager_guards :
    guardsOf "Manager.GetRoundRobinItem" = ["if:len(m.items)==0", "if:item.Len()>0", "if:m.roundRobinIndex==start"] ∧
    guardsOf "Manager.GetMaxLenItem" = ["if:len(m.items)==0", "if:maxItem.Len()==0"] ∧
    guardsOf "Manager.GetMinLenItem" = ["if:len(m.items)==0", "if:l>0&&(minLen==-1||l<minLen)", "if:minLen==-1"] := by decide +kernel
/-- `Manager.UnregisterItem` (model `Manager.unregister`): pointer-equality test, cursor reset when it is at or past the slot. -/
theorem manager_unregister_guards :
    guardsOf "Manager.UnregisterItem" = ["if:itemToRemovePtr==itemValuePtr", "if:m.roundRobinIndex>=i"] ∧
    skeletonOf "Manager.UnregisterItem" = ["mutex:m.mx:Lock", "mutex:m.mx:Unlock"] := by decide +kernel
theorem pq_guards :
    guardsOf "PriorityQueue.Enqueue" = ["if:q.closed.Load()", "if:!ok"] ∧ guardsOf "PriorityQueue.Dequeue" = ["if:q.internal.Len()==0"] := by decide +kernel

/-! ### Res model (C02, C06, C09) -/
theorem reserve_skeleton : skeletonOf "worker.reserve" =
    ["atomic:w.curProcessing:Load", "atomic:w.concurrency:Load", "atomic:w.curProcessing:CompareAndSwap", "atomic:w.status:Load", "atomic:w.concurrency:Load"] := by decide +kernel
theorem reserve_guards : guardsOf "worker.reserve" =
    ["if:c>=w.concurrency.Load()", "if:w.curProcessing.CompareAndSwap(c,c+1)", "if:s==paused||s==stopped||taken>w.concurrency.Load()"] := by decide +kernel
theorem release_skeleton : skeletonOf "worker.release" = ["atomic:w.curProcessing:Add"] := by decide +kernel
theorem barrier_skeleton : skeletonOf "worker.WaitUntilFinished$1" =
    ["atomic:w.status:Load", "atomic:w.curProcessing:Load", "atomic:w.curProcessing:Load"] := by decide +kernel

/-! ### Job model (C01, C05, C08, C10, C16) -/
theorem claim_skeleton : skeletonOf "job.claim" = ["atomic:j.status:Load", "atomic:j.status:CompareAndSwap"] := by decide +kernel
theorem claim_guards : guardsOf "job.claim" = ["if:s==closed", "if:j.status.CompareAndSwap(s,processing)"] := by decide +kernel
theorem tryClose_skeleton : skeletonOf "job.tryClose" = ["atomic:j.status:Load", "atomic:j.status:CompareAndSwap"] := by decide +kernel
theorem tryClose_guards : guardsOf "job.tryClose" = ["if:j.status.CompareAndSwap(s,closed)"] := by decide +kernel
theorem close_skeleton : skeletonOf "job.Close" = ["wg:j.wg:Done"] := by decide +kernel
theorem wgcounter_done_skeleton : skeletonOf "WgCounter.Done" =
    ["atomic:pt.count:Load", "atomic:pt.count:CompareAndSwap", "wg:pt.wg:Done"] := by decide +kernel
theorem wgcounter_done_guards : guardsOf "WgCounter.Done" =
    ["if:c==0", "ret:false", "if:pt.count.CompareAndSwap(c,c-1)", "ret:c==1"] := by decide +kernel

/-! ### C17: FIFO length is read under the queue lock (a deferred call is listed where its `defer` stands, so
    `RUnlock` comes before the two loads it follows at run time) -/
theorem fifo_len_skeleton : skeletonOf "Queue.Len" =
    ["mutex:q.mx:RLock", "mutex:q.mx:RUnlock", "atomic:q.writeCount:Load", "atomic:q.readCount:Load"] := by decide +kernel

/-! ### Call orders (regenerated `calls`) -/
def posOf (x : String) (l : List String) : Nat := (l.findIdx? (· == x)).getD l.length

/-- a occurs, b occurs, and the first a precedes the first b -/
def before (a b : String) (l : List String) : Bool := posOf a l < posOf b l && posOf b l < l.length

/-- the runner: worker function, Finished, Close, return the node, release the slot, count, notify -/
theorem runner_calls : callsOf "worker.initPoolNode$1" =
    ["workerFunc", "changeStatus", "Close", "Is", "sendError", "freePoolNode", "release", "incCompleted", "notifyToPullNextJobs"] := by decide +kernel

def addFns : List String :=
  ["queue.Add", "queue.AddAll", "errorQueue.Add", "errorQueue.AddAll", "resultQueue.Add", "resultQueue.AddAll",
   "priorityQueue.Add", "priorityQueue.AddAll", "errorPriorityQueue.Add", "errorPriorityQueue.AddAll",
   "resultPriorityQueue.Add", "resultPriorityQueue.AddAll"]

/-- all 12 submission paths: Queued is stored before the job becomes visible -/
theorem queued_before_enqueue : addFns.all (fun f => before "changeStatus" "Enqueue" (callsOf f)) = true := by decide +kernel
/-- … and the submission is counted and the event loop notified after the enqueue -/
theorem notify_after_enqueue : addFns.all (fun f => before "Enqueue" "incSubmitted" (callsOf f) && before "incSubmitted" "notifyToPullNextJobs" (callsOf f)) = true := by decide +kernel
theorem persistent_add_calls : callsOf "persistentQueue.Add" =
    ["newJob", "loadJobConfigs", "configs", "Json", "Enqueue", "Close", "incSubmitted", "Metrics", "notifyToPullNextJobs"] := by decide +kernel

theorem process_next_job_calls : callsOf "worker.processNextJob" =
    ["reserve", "next", "release", "Errorf", "DequeueWithAckId", "Dequeue", "release", "parseToJob", "release", "release",
     "setInternalQueue", "release", "claim", "release", "setAckId", "sendToNextChannel"] := by decide +kernel

theorem event_loop_calls : callsOf "worker.goEventLoop$1" =
    ["IsRunning", "Load", "Load", "Len", "processNextJob", "sendError", "releaseWaiters", "Load"] := by decide +kernel

theorem pause_calls : callsOf "worker.pause" = ["Load", "Store", "releaseWaiters", "Load"] := by decide +kernel
theorem pause_and_wait_calls : callsOf "worker.PauseAndWait" = ["Lock", "Unlock", "pause", "WaitUntilFinished"] := by decide +kernel
theorem stop_calls : callsOf "worker.stop" =
    ["Load", "pause", "WaitUntilFinished", "WaitUntilFinished", "cancel", "Store", "stopTickers", "closeChannels", "stopAndRemoveAllWorkers"] := by decide +kernel
theorem restart_calls : callsOf "worker.Restart" =
    ["Lock", "Unlock", "Load", "pause", "WaitUntilFinished", "stopAndRemoveAllWorkers", "WaitUntilFinished", "stopAndRemoveAllWorkers",
     "stopTickers", "closeChannels", "Lock", "make", "make", "cancel", "WithCancel", "Unlock", "run"] := by decide +kernel
theorem run_calls : callsOf "worker.run" =
    ["notifyToPullNextJobs", "Store", "goEventLoop", "goRemoveIdleWorkers", "goListenToContext", "PushNode", "initPoolNode"] := by decide +kernel
theorem listener_calls : callsOf "worker.goListenToContext$1" = ["Done", "Lock", "Unlock", "RLock", "RUnlock", "stop"] := by decide +kernel

theorem job_close_calls : callsOf "job.Close" = ["tryClose", "Done", "ack"] := by decide +kernel
theorem result_group_close_calls : callsOf "resultGroupJob.Close" = ["tryClose", "ack", "Done", "Close"] ∧
    callsOf "errorGroupJob.Close" = ["tryClose", "ack", "Done", "Close"] ∧ callsOf "groupJob.Close" = ["tryClose", "ack", "Done"] := by decide +kernel
theorem single_close_calls : callsOf "errorJob.Close" = ["Close", "Close"] ∧ callsOf "resultJob.Close" = ["Close", "Close"] := by decide +kernel
theorem purge_calls : callsOf "externalBaseQueue.Purge" = ["Purge", "notifyToPullNextJobs", "Dequeue", "Close", "notifyToPullNextJobs"] := by decide +kernel

theorem free_pool_node_calls : callsOf "worker.freePoolNode" =
    ["UpdateLastUsed", "Len", "NumConcurrency", "Len", "numMinIdleWorkers", "PushNode", "Stop", "Put"] := by decide +kernel
theorem reaper_calls : callsOf "worker.goRemoveIdleWorkers$1" =
    ["numMinIdleWorkers", "Len", "NodeSlice", "len", "Before", "Add", "GetLastUsed", "Now", "RLock", "RUnlock", "Remove", "RUnlock", "Stop", "Put"] := by decide +kernel
/-- the reaper checks that its run is still alive and removes the node under w.mx (read mode); stopTickers
    closes the stop channel under w.mx (write mode): a pass that outlives its run removes nothing -/
theorem reaper_skeleton : skeletonOf "worker.goRemoveIdleWorkers$1" =
    ["chan:stop:recv", "chan:ticker.C:recv", "chan::select", "mutex:w.mx:RLock", "chan:stop:recv", "mutex:w.mx:RUnlock", "chan::select",
     "mutex:w.mx:RUnlock", "pool:w.pool.Cache:Put"] ∧
    skeletonOf "worker.stopTickers" = ["mutex:w.mx:Lock", "mutex:w.mx:Unlock", "time:ticker:Stop", "chan:stop:close"] := by decide +kernel
theorem stop_all_calls : callsOf "worker.stopAndRemoveAllWorkers" = ["NodeSlice", "Remove", "Stop", "Put"] := by decide +kernel
theorem tune_pool_calls : callsOf "worker.TunePool" =
    ["Load", "Load", "withSafeConcurrency", "Store", "notifyToPullNextJobs", "numMinIdleWorkers", "PopBackIfLonger", "Stop", "Put"] := by decide +kernel

theorem wrapper_calls : callsOf "NewWorker$1" = ["WithSafe", "incFailed", "sendError", "incSuccessful"] ∧
    callsOf "NewErrWorker$1" = ["WithSafe", "SelectError", "sendError", "sendError", "incFailed", "incSuccessful"] ∧
    callsOf "NewResultWorker$1" = ["WithSafe", "SelectError", "sendError", "sendError", "incFailed", "incSuccessful"] := by decide +kernel

/-! ### Containers: every operation is one critical section -/
theorem fifo_lock_skeletons :
    skeletonOf "Queue.Enqueue" = ["atomic:q.closed:Load", "mutex:q.mx:Lock", "mutex:q.mx:Unlock", "atomic:q.writeCount:Add", "atomic:q.writeCount:Add"] ∧
    skeletonOf "Queue.Dequeue" = ["mutex:q.mx:Lock", "mutex:q.mx:Unlock", "atomic:q.readCount:Add", "atomic:q.readCount:Add"] ∧
    skeletonOf "Queue.Purge" = ["mutex:q.mx:Lock", "mutex:q.mx:Unlock", "atomic:q.readCount:Store", "atomic:q.writeCount:Store"] ∧
    skeletonOf "Queue.Values" = ["mutex:q.mx:RLock", "mutex:q.mx:RUnlock"] := by decide +kernel
theorem pq_lock_skeletons :
    skeletonOf "PriorityQueue.Enqueue" = ["atomic:q.closed:Load", "mutex:q.mx:Lock", "mutex:q.mx:Unlock"] ∧
    skeletonOf "PriorityQueue.Dequeue" = ["mutex:q.mx:Lock", "mutex:q.mx:Unlock"] ∧
    skeletonOf "PriorityQueue.Len" = ["mutex:q.mx:RLock", "mutex:q.mx:RUnlock"] ∧
    skeletonOf "PriorityQueue.Purge" = ["mutex:q.mx:Lock", "mutex:q.mx:Unlock"] := by decide +kernel
theorem list_lock_skeletons :
    skeletonOf "List.PopBack" = ["mutex:l.mx:Lock", "mutex:l.mx:Unlock"] ∧ skeletonOf "List.PopBackIfLonger" = ["mutex:l.mx:Lock", "mutex:l.mx:Unlock"] ∧ skeletonOf "List.Remove" = ["mutex:l.mx:Lock", "mutex:l.mx:Unlock"] ∧
    skeletonOf "List.PushNode" = ["mutex:l.mx:Lock", "mutex:l.mx:Unlock"] := by decide +kernel
theorem manager_lock_skeletons :
    skeletonOf "Manager.GetRoundRobinItem" = ["mutex:m.mx:Lock", "mutex:m.mx:Unlock"] ∧ skeletonOf "Manager.Len" = ["mutex:m.mx:RLock", "mutex:m.mx:RUnlock"] ∧
    skeletonOf "Manager.Register" = ["mutex:m.mx:Lock", "mutex:m.mx:Unlock"] := by decide +kernel

/-- the wait condition reads Len() before curProcessing on a running worker (the dispatcher reserves before it dequeues) -/
theorem wuf_condition_calls : callsOf "worker.WaitUntilFinished$1" = ["Load", "Len", "Load", "Load"] := by decide +kernel

/-- the batch stream has one slot per item (NewResponse makes a channel of exactly the requested capacity), so a
    worker never blocks in Response.Send -/
theorem response_capacity_calls : callsOf "NewResponse" = ["make"] ∧ guardsOf "NewResponse" = [] := by decide +kernel

/-- binding a queue to a worker that has been started before starts no new run but wakes the event loop: the queue
    may already hold entries (persistent / distributed adapters) -/
theorem start_calls : callsOf "worker.start" = ["Lock", "Unlock", "startRun", "notifyToPullNextJobs"] ∧
    guardsOf "worker.start" = ["if:err!=nil"] := by decide +kernel

/-- binding a distributed queue: the deferred calls run last-in-first-out, so the queue is registered
    before the run starts (whose first notification makes the event loop look at the registered queues)
    and the subscription to the adapter's announcements comes last -/
theorem distributed_bind_calls :
    callsOf "workerBinder.WithDistributedQueue" = ["Subscribe", "start", "Register", "NewDistributedQueue"] ∧
    callsOf "workerBinder.WithDistributedPriorityQueue" = ["Subscribe", "start", "Register", "NewDistributedPriorityQueue"] := by decide +kernel

/-- local variables shared between goroutines through function literals: the worker function's outcome (`err`) lives
    in the per-job closure (`…$1`, one instance per invocation) and is only assigned by the closure nested in it; `w` is
    assigned once by the constructor before the worker exists for anybody else. A variable hoisted out of the per-job
    closure (one instance for all invocations) changes this list. -/
theorem shared_vars : Generated.sharedVars =
    ["err NewErrWorker$1 NewErrWorker$2", "err NewResultWorker$1 NewResultWorker$2", "err WithSafe WithSafe$1",
     "w NewErrWorker NewErrWorker", "w NewResultWorker NewResultWorker", "w NewWorker NewWorker"] := by decide +kernel

/-! ### C19: what the race check has to know about -/
def knownSyncKinds : List String := [
  "atomic:Add", "atomic:CompareAndSwap", "atomic:Load", "atomic:Store", "atomic:Swap",
  "chan:close", "chan:make", "chan:range", "chan:recv", "chan:select", "chan:send", "chan:trysend",
  "cond:Broadcast", "cond:Signal", "cond:Wait", "ctx:cancel", "go:go",
  "mutex:Lock", "mutex:RLock", "mutex:RUnlock", "mutex:TryLock", "mutex:TryRLock", "mutex:Unlock",
  "pool:Get", "pool:Put", "time:NewTicker", "time:Stop", "wg:Add", "wg:Done", "wg:Wait"]
/-- every kind of synchronisation operation in the code is one the happens-before mapping of the
    driver (`RaceMap.events`) gives a meaning to; a new primitive (sync.Once, sync.Map, atomic.Value …)
    fails this theorem instead of being silently treated as "orders everything" -/
theorem sync_kinds_known : Generated.syncKinds.all (fun k => knownSyncKinds.contains k) = true := by decide +kernel

/-- the instrumentation found plain accesses to wrap (a translator that silently stops wrapping would
    make the race check vacuous) -/
theorem mem_sites_present : 300 ≤ Generated.memSites := by decide +kernel

/-- the result slot of a Response is written and read under its mutex -/
theorem response_lock_skeleton :
    skeletonOf "Response.Send" = ["mutex:c.mx:Lock", "mutex:c.mx:Unlock", "chan:c.ch:send"] ∧
    skeletonOf "Response.Response" = ["chan:c.ch:recv", "mutex:c.mx:Lock", "mutex:c.mx:Unlock"] := by decide +kernel

end VarmqVerif.Tie
