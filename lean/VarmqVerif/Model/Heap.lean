/-!
# Model of `internal/queues/heap.go` and of the `container/heap` functions it is driven by

Transcription (not idealisation) of

* `/repo/internal/queues/heap.go`      : `heapQueue[T]` (`Len`, `Less`, `Swap`, `Push`, `Pop`)
* `$GOROOT/src/container/heap/heap.go` : `Init`, `Push`, `Pop`, `up`, `down` (go1.26.8)

The heap lives in an `Array (Item α)`; `heapQueue.items` is a Go slice of `*enqItem[T]`.  The
pointer indirection is irrelevant: an `enqItem` is never mutated after `Enqueue` built it.

Core Lean only.  All definitions are total and executable.  `up` and `down` are the Go loops written
as recursive functions; their termination is *proved* (well-founded recursion, `termination_by` /
`decreasing_by` below), not assumed and not cut off by fuel.
-/

namespace VarmqVerif
namespace Heap

/-- `type enqItem[T any] struct { Value T; Priority int; Index int }` (priority.go).
`Priority` is a Go `int`; it is only ever *compared* (`==`, `<`), never used in arithmetic, so `Int`
is an exact model.  `Index` is a copy of `PriorityQueue.insertionCount`, a counter starting at 0 and
only incremented: `Nat` (wrap-around of the Go `int` after 2^63 accepted enqueues is out of scope
and stated as such in `Proofs/PQRefine.lean`). -/
structure Item (α : Type) where
  val  : α
  prio : Int
  idx  : Nat
deriving DecidableEq, Repr

variable {α : Type}

/-- `heapQueue.Less(i, j)` applied to the two items:
```go
if pq.items[i].Priority == pq.items[j].Priority {
    return pq.items[i].Index < pq.items[j].Index   // tie-breaker: lower insertion index first
}
return pq.items[i].Priority < pq.items[j].Priority
``` -/
def less (a b : Item α) : Bool :=
  if a.prio = b.prio then a.idx < b.idx else a.prio < b.prio

/-- Go: `i := (j - 1) / 2 // parent`.  For `j = 0` Go computes `(-1)/2 = 0` (truncated division) and
`Nat` computes `(0 - 1)/2 = 0/2 = 0`: the same value, which is what makes the `i == j` test of `up`
fire at the root. -/
abbrev parent (j : Nat) : Nat := (j - 1) / 2

/-- `container/heap.up`:
```go
func up(h Interface, j int) {
    for {
        i := (j - 1) / 2 // parent
        if i == j || !h.Less(j, i) { break }
        h.Swap(i, j)
        j = i
    }
}
```
Totalisation guard `j < a.size`: for `j ≥ Len()` with `j ≠ 0` Go panics (index out of range inside
`Less`); for `j = 0` on an empty heap Go breaks on `i == j` before touching the slice, and the model
returns `a` unchanged as well.  `heap.Push` only calls `up(h, Len()-1)` after the append, so the guard
is always true on the paths reachable from priority.go. -/
def up (a : Array (Item α)) (j : Nat) : Array (Item α) :=
  if hj : j < a.size then
    have hi : parent j < a.size := by unfold parent; omega
    if h : parent j = j ∨ less a[j] a[parent j] = false then a
    else up (a.swap (parent j) j hi hj) (parent j)
  else a
termination_by j
decreasing_by
  have h1 : parent j ≠ j := fun e => h (Or.inl e)
  unfold parent at *; omega

/-- The child index `j` chosen by one iteration of `down`:
```go
j := j1 // left child
if j2 := j1 + 1; j2 < n && h.Less(j2, j1) {
    j = j2 // = 2*i + 2  // right child
}
``` -/
def minChild (a : Array (Item α)) (j1 n : Nat) (_h1 : j1 < n) (hn : n ≤ a.size) : Nat :=
  if h2 : j1 + 1 < n then
    if less (a[j1 + 1]'(by omega)) (a[j1]'(by omega)) then j1 + 1 else j1
  else j1

theorem minChild_lt (a : Array (Item α)) (j1 n : Nat) (h1 : j1 < n) (hn : n ≤ a.size) :
    minChild a j1 n h1 hn < n := by
  unfold minChild
  split
  · split <;> omega
  · omega

theorem le_minChild (a : Array (Item α)) (j1 n : Nat) (h1 : j1 < n) (hn : n ≤ a.size) :
    j1 ≤ minChild a j1 n h1 hn := by
  unfold minChild
  split
  · split <;> omega
  · omega

/-- `container/heap.down`:
```go
func down(h Interface, i0, n int) bool {
    i := i0
    for {
        j1 := 2*i + 1
        if j1 >= n || j1 < 0 { break } // j1 < 0 after int overflow
        j := j1 // left child
        if j2 := j1 + 1; j2 < n && h.Less(j2, j1) { j = j2 }
        if !h.Less(j, i) { break }
        h.Swap(i, j)
        i = j
    }
    return i > i0
}
```
* `j1 < 0` (overflow of `2*i+1` in a 64-bit `int`) cannot happen over `Nat` and would need a slice of
  more than 2^62 pointers in Go; the disjunct is dropped.
* The boolean result `i > i0` is used only by `heap.Remove` / `heap.Fix`, which priority.go never
  calls; `heap.Init` and `heap.Pop` discard it.  The model returns the array only.
* Totalisation guard `n ≤ a.size`: Go would panic (index out of range) for a larger `n`; `Init` calls
  it with `n = Len()` and `Pop` with `n = Len() - 1`. -/
def down (a : Array (Item α)) (i n : Nat) : Array (Item α) :=
  if h : 2 * i + 1 < n ∧ n ≤ a.size then
    let j := minChild a (2 * i + 1) n h.1 h.2
    have hjn : j < n := minChild_lt a (2 * i + 1) n h.1 h.2
    have hij : 2 * i + 1 ≤ j := le_minChild a (2 * i + 1) n h.1 h.2
    if less (a[j]'(by omega)) (a[i]'(by omega)) = false then a
    else down (a.swap i j (by omega) (by omega)) j n
  else a
termination_by n - i
decreasing_by omega

theorem size_up (a : Array (Item α)) (j : Nat) : (up a j).size = a.size := by
  fun_induction up a j <;> simp_all

theorem size_down (a : Array (Item α)) (i n : Nat) : (down a i n).size = a.size := by
  fun_induction down a i n <;> simp_all

/-- The loop of `container/heap.Init`, counting `k = i + 1` down to 0:
`for i := n/2 - 1; i >= 0; i-- { down(h, i, n) }`. -/
def initLoop (n : Nat) : Nat → Array (Item α) → Array (Item α)
  | 0,     a => a
  | k + 1, a => initLoop n k (down a k n)

/-- `container/heap.Init`: `n := h.Len(); for i := n/2 - 1; i >= 0; i-- { down(h, i, n) }`.
priority.go calls it only on a freshly made empty slice (`NewPriorityQueue`, `Purge`), where the loop
body never runs. -/
def heapInit (a : Array (Item α)) : Array (Item α) :=
  initLoop a.size (a.size / 2) a

/-- `container/heap.Push` composed with `heapQueue.Push`:
```go
func Push(h Interface, x any) { h.Push(x); up(h, h.Len()-1) }
func (pq *heapQueue[T]) Push(x any) { pq.items = append(pq.items, x.(*enqItem[T])) }
```
After the append `Len()-1` is the old length `a.size`. -/
def heapPush (a : Array (Item α)) (x : Item α) : Array (Item α) :=
  up (a.push x) a.size

/-- `container/heap.Pop` composed with `heapQueue.Pop`:
```go
func Pop(h Interface) any { n := h.Len() - 1; h.Swap(0, n); down(h, 0, n); return h.Pop() }
func (pq *heapQueue[T]) Pop() any {
    n := len(pq.items); item := pq.items[n-1]; pq.items = pq.items[:n-1]; return item }
```
Returns (popped item, remaining array).  Precondition `0 < a.size`: on an empty heap Go panics in
`Swap(0, -1)`; `PriorityQueue.Dequeue` checks `Len() == 0` first and is the only caller. -/
def heapPop (a : Array (Item α)) (h : 0 < a.size) : Item α × Array (Item α) :=
  let n := a.size - 1
  let a1 := a.swap 0 n h (by omega)
  let a2 := down a1 0 n
  (a2[n]'(by simp only [a2, a1, size_down, Array.size_swap]; omega), a2.pop)

end Heap
end VarmqVerif
