import VarmqVerif.Proofs.JobCfg
import VarmqVerif.Proofs.Job
/-!
  C07 — each handle gets its own job's outcome; panics are contained (partial).
  Proved: the job ID rule (last non-empty WithJobId, else the generator), group ids, the nil-function
  branches of Func/ErrFunc/ResultFunc; a value is only ever sent on the response channel of the job
  that runs (model `Job`: `Response.Send` happens inside that job's worker-function wrapper, on its own
  channel, while it is Processing), and a closed channel has no sender. That Result()/Err() return
  exactly that value on every call, that a panic becomes the job's error, is counted as failed and
  offered on the error channel while all other jobs still report their own outcomes, is evaluated on
  explored executions by the predicate (all assignments of value/error/panic, concurrency 1..3,
  several readers). `recover` itself is part of the trusted Go runtime.
-/
namespace VarmqVerif.Props.C07
open VarmqVerif

theorem job_id_generator (g : String) (opts : List String) (h : ∀ o ∈ opts, o = "") : JobCfg.loadJobConfigs g opts = g :=
  JobCfg.load_all_empty g opts h

theorem job_id_last_nonempty (g : String) (pre post : List String) (id : String) (hid : id ≠ "")
    (hpost : ∀ o ∈ post, o = "") : JobCfg.loadJobConfigs g (pre ++ id :: post) = id :=
  JobCfg.load_last_nonempty g pre post id hid hpost

theorem group_id (id : String) : JobCfg.groupId id = "g:" ++ id := rfl

theorem nil_function_outcomes :
    JobCfg.helperOutcome .func true = .panicNil ∧ JobCfg.helperOutcome .errFunc true = .errNil ∧
    JobCfg.helperOutcome .resultFunc true = .errNil ∧ ∀ h, JobCfg.helperOutcome h false = .ran := JobCfg.nil_func_outcomes

/-- a closed response channel has no goroutine that could still send on it -/
theorem closed_channel_has_no_sender {s : Job.State} {c g j : Nat} (h : Job.Reach s) (hc : (s.chans c).closed = true)
    (hr : (s.loc g).running = some j) : (s.jobs j).chan ≠ some c := Job.stream_closed_no_sender h hc hr

theorem no_panic_from_the_library {s : Job.State} (h : Job.Reach s) : s.crashed = false := Job.no_crash h

end VarmqVerif.Props.C07
