import VarmqVerif.Proofs.Res
import VarmqVerif.Proofs.Config
/-!
  C02 — in-flight worker invocations never exceed the configured concurrency.
-/
namespace VarmqVerif.Props.C02
open VarmqVerif Res

/-- worker functions in progress, jobs handed to a node and slots held by dispatchers together never
    exceed curProcessing … -/
theorem executing_le_cur {s : State} (h : Reach s) : s.nExec + s.handed + s.nHold ≤ s.cur := Res.executing_le_cur h

/-- … and curProcessing never exceeds the largest limit that has been in effect: whatever Bind,
    Resume, Restart, TunePool calls and however many dispatcher loops interleave -/
theorem cur_le_limit {s : State} (h : Reach s) : s.cur ≤ s.maxConc := cur_le_maxConc h

theorem executing_le_limit {s : State} (h : Reach s) : s.nExec ≤ s.maxConc := executing_le_maxConc h

/-- the re-check after taking the slot (reserve() looks at the limit again): a dispatcher keeps the slot only if
    the value it took is within the limit in effect at the re-check, and has to give it back otherwise — this is
    what stops the event loop of a previous run that comes back with an old limit -/
theorem kept_slot_within_limit {s s' : State} {g v : Nat} (h : step s (.ldConcR g v) = .ok s') (hh : s'.ph g = .holding) :
    s.tk g ≤ s.conc := Res.holding_within_limit h hh
theorem slot_over_limit_given_back {s s' : State} {g v : Nat} (h : step s (.ldConcR g v) = .ok s') (hg : s.conc < s.tk g) :
    s'.ph g = .mustRelease := Res.recheck_gives_back h hg
/-- every slot taken is a real one and never exceeds the largest limit the worker ever had -/
theorem taken_bounds {s : State} (hr : Reach s) (g : Nat) (hp : s.ph g ≠ .idle) : 1 ≤ s.tk g ∧ s.tk g ≤ s.maxConc :=
  Res.taken_bounds hr g hp

/-- the limit itself: withSafeConcurrency with Go's int → uint32 conversion. The hypothesis `_h` is not used: it is
    the side condition that the truncating conversion needed (positive multiples of 2^32 became limit 0), before fix
    185c5b0 clamped the values that do not fit -/
theorem safe_concurrency_positive (cpus : BitVec 32) (c : BitVec 64) (hc : cpus ≠ 0)
    (_h : c.toInt % 2 ^ 32 ≠ 0 ∨ c.toInt < 1) : Config.withSafeConcurrency cpus c ≠ 0 :=
  Config.safe_conc_never_zero cpus c hc

/-- with at least one CPU the limit is never 0, whatever `int` is passed -/
theorem safe_concurrency_never_zero (cpus : BitVec 32) (c : BitVec 64) (hc : cpus ≠ 0) :
    Config.withSafeConcurrency cpus c ≠ 0 := Config.safe_conc_never_zero cpus c hc

/-- values that do not fit are clamped to math.MaxUint32 -/
theorem safe_concurrency_clamped (cpus : BitVec 32) (c : BitVec 64) (h : 2 ^ 32 ≤ c.toInt) :
    Config.withSafeConcurrency cpus c = 0xFFFFFFFF#32 := Config.safe_conc_clamp cpus c h

/-- in the range of a uint32 the limit is the value that was asked for -/
theorem safe_concurrency_id (cpus : BitVec 32) (c : BitVec 64) (h1 : 1 ≤ c.toInt) (h2 : c.toInt < 2 ^ 32) :
    (Config.withSafeConcurrency cpus c).toNat = c.toInt.toNat := Config.safe_conc_id cpus c h1 h2

end VarmqVerif.Props.C02
