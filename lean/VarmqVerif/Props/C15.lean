import VarmqVerif.Proofs.Manager
import VarmqVerif.Tie.Facts
/-!
  C15 — multi-queue selection follows the configured strategy and starves no queue.
  `Manager` abstracts the bound queues to their current lengths; the theorems hold for any number
  of queues of any kind and unbounded event sequences.
-/
namespace VarmqVerif.Props.C15
open VarmqVerif Manager

/-- RoundRobin returns the first non-empty queue in cyclic order from the cursor and advances the
    cursor just past it; it fails exactly when every queue is empty (cursor unchanged) -/
theorem round_robin_spec (lens : List Int) (rr : Nat) (hrr : rr < lens.length) :
    ((∃ j, ∃ hj : j < lens.length, 0 < lens[j]) →
       ∃ q, ∃ hq : q < lens.length, roundRobin lens rr = (.ok q, (q + 1) % lens.length) ∧ 0 < lens[q] ∧
         ∀ t (ht : t < lens.length), dist lens.length rr t < dist lens.length rr q → lens[t] ≤ 0) ∧
    ((∀ j (hj : j < lens.length), lens[j] ≤ 0) → roundRobin lens rr = (.error .allEmpty, rr)) :=
  rr_spec lens rr hrr

/-- the cursor stays a valid index, so the Go loop never indexes out of range -/
theorem round_robin_cursor_valid (lens : List Int) (rr : Nat) (hrr : rr < lens.length) :
    (roundRobin lens rr).2 < lens.length := rr_cursor_lt lens rr hrr

/-- a queue that is non-empty whenever a selection is made is selected within n selections -/
theorem round_robin_no_starvation (s : St) (hwf : s.WF) (i : Nat) (hi : i < s.lens.length) (evs : List Ev)
    (hne : NonemptyAtSelects i s evs) (hn : s.lens.length ≤ numSelects evs) :
    s.servedOf i + 1 ≤ (run s evs).servedOf i := rr_no_starvation s hwf i hi evs hne hn

/-- two queues that are both non-empty at every selection receive equal shares (difference ≤ 1),
    over any number of interleaved submissions and selections -/
theorem round_robin_equal_share (s : St) (hwf : s.WF) (i j : Nat) (hi : i < s.lens.length) (hj : j < s.lens.length)
    (evs : List Ev) (hni : NonemptyAtSelects i s evs) (hnj : NonemptyAtSelects j s evs) :
    (run s evs).servedOf i - s.servedOf i ≤ (run s evs).servedOf j - s.servedOf j + 1 ∧
    (run s evs).servedOf j - s.servedOf j ≤ (run s evs).servedOf i - s.servedOf i + 1 :=
  rr_equal_share s hwf i j hi hj evs hni hnj

/-- MaxLen picks a (the first) queue with the most pending jobs -/
theorem max_len_spec (lens : List Int) (hnn : ∀ l ∈ lens, 0 ≤ l) :
    (∀ i, maxLen lens = .ok i → ∃ hi : i < lens.length, 0 < lens[i] ∧
       (∀ j (hj : j < lens.length), lens[j] ≤ lens[i]) ∧ (∀ j (hj : j < i), lens[j] < lens[i])) ∧
    (maxLen lens = .error .allEmpty ↔ lens ≠ [] ∧ ∀ j (hj : j < lens.length), lens[j] = 0) ∧
    (maxLen lens = .error .noItems ↔ lens = []) ∧
    ((∃ i, maxLen lens = .ok i) ↔ ∃ j, ∃ hj : j < lens.length, 0 < lens[j]) := maxLen_spec lens hnn

/-- MinLen picks a (the first) non-empty queue with the fewest pending jobs -/
theorem min_len_spec (lens : List Int) :
    (∀ i, minLen lens = .ok i → ∃ hi : i < lens.length, 0 < lens[i] ∧
       (∀ j (hj : j < lens.length), 0 < lens[j] → lens[i] ≤ lens[j]) ∧ (∀ j (hj : j < i), 0 < lens[j] → lens[i] < lens[j])) ∧
    (minLen lens = .error .allEmpty ↔ lens ≠ [] ∧ ∀ j (hj : j < lens.length), lens[j] ≤ 0) ∧
    (minLen lens = .error .noItems ↔ lens = []) ∧
    ((∃ i, minLen lens = .ok i) ↔ ∃ j, ∃ hj : j < lens.length, 0 < lens[j]) := minLen_spec lens

/-- removing a queue (`Manager.UnregisterItem`, unused by the library but exported by the helper) keeps the
    selection machinery sound: one item fewer, the cursor is a valid index of what is left (or the manager is
    empty), every remaining queue keeps its slot except the former last one, which takes the freed slot, and
    `Len()` drops by exactly the removed queue's length -/
theorem unregister_keeps_manager_sound (lens : List Int) (rr i : Nat) (h : i < lens.length)
    (hrr : rr < lens.length ∨ lens = []) :
    count (unregister lens rr i).1 + 1 = count lens ∧
    ((unregister lens rr i).2 < (unregister lens rr i).1.length ∨ (unregister lens rr i).1 = []) ∧
    (∀ j, j < lens.length - 1 →
      (unregister lens rr i).1[j]? = if j = i then lens[lens.length - 1]? else lens[j]?) ∧
    total (unregister lens rr i).1 + lens[i] = total lens :=
  ⟨count_unregister lens rr i h, unregister_cursor lens rr i hrr,
   fun j hj => unregister_getElem lens rr i j h hj, total_unregister lens rr i h⟩

example : (1 : Nat) < [5, 6, 7, 8].length ∧ unregister [5, 6, 7, 8] 2 1 = ([5, 8, 7], 0) := by decide

/-- after any removal the next round-robin selection still runs on a valid cursor and leaves one: together with
    `round_robin_cursor_valid` and `Register` (which only appends) the cursor is in range — or the manager empty —
    after every sequence of Register / UnregisterItem / GetRoundRobinItem calls -/
theorem select_after_unregister_in_range (lens : List Int) (rr i : Nat) (hrr : rr < lens.length ∨ lens = [])
    (hne : (unregister lens rr i).1 ≠ []) :
    (roundRobin (unregister lens rr i).1 (unregister lens rr i).2).2 < (unregister lens rr i).1.length :=
  rr_cursor_lt _ _ ((unregister_cursor lens rr i hrr).resolve_right hne)

example : (2 < [0, 6, 7, 8].length ∨ [0, 6, 7, 8] = ([] : List Int)) ∧ (unregister [0, 6, 7, 8] 2 3).1 ≠ [] ∧
    roundRobin (unregister [0, 6, 7, 8] 2 3).1 (unregister [0, 6, 7, 8] 2 3).2 = (.ok 2, 0) := by decide

/-- every bind path of the current tree registers its queue exactly once (regenerated call graph) -/
theorem registered_once : Generated.registerCalls.all (fun p => p.2 == 1) = true := Tie.register_once

end VarmqVerif.Props.C15
