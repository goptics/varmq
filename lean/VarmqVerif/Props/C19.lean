import VarmqVerif.Proofs.Race
/-!
  C19 — no data race, in the sense of the Go memory model, on memory owned by the library.

  What is proved: the detector that judges every explored execution is exact with respect to the
  happens-before specification of model `Race` (for traces of any length, any number of goroutines,
  synchronisation objects and memory locations). What is NOT proved: that the executions explored
  cover all client programs and schedules (exploration), and that the trace contains every plain
  access (the instrumentation wraps struct fields and captured variables; slice/map elements and
  accesses through reflection are not observed). Happens-before is over-approximated only in the
  direction that removes reports (see Model/Race.lean and `RaceMap.events`), so a reported pair is a
  data race of that execution in the Go memory model.
-/
namespace VarmqVerif.Props.C19
open VarmqVerif Race

/-- no false alarm: every pair the detector reports consists of two accesses of different goroutines to
    overlapping memory, at least one a write, neither happening before the other -/
theorem report_is_race (tr : List Ev) (r : Report) (h : r ∈ detect tr) : RacePair tr r.i r.j :=
  detect_sound tr r h

/-- nothing missed within the execution: every unordered conflicting pair is reported -/
theorem race_is_reported (tr : List Ev) (i j : Nat) (h : RacePair tr i j) : ∃ r ∈ detect tr, r.i = i ∧ r.j = j :=
  detect_complete tr i j h

/-- the verdict on one execution: no report ⇔ the execution is race free -/
theorem silent_iff_race_free (tr : List Ev) : detect tr = [] ↔ ¬ Racy tr := detect_nil_iff tr

/-- a report names the source sites of its two accesses -/
theorem report_sites (tr : List Ev) (r : Report) (h : r ∈ detect tr) :
    ∃ e f a s w b u x, tr[r.i]? = some e ∧ tr[r.j]? = some f ∧
      e.access = some (a, s, w, r.siteI) ∧ f.access = some (b, u, x, r.siteJ) := detect_sites tr r h

end VarmqVerif.Props.C19
