import VarmqVerif.Proofs.Fifo
import VarmqVerif.Proofs.PQ
import VarmqVerif.Proofs.Disp
import VarmqVerif.Proofs.FifoDisp
import VarmqVerif.Tie.Facts
/-!
  C04 — dispatch order: FIFO per queue; lowest priority number first, ties FIFO.
  Unbounded operation sequences, arbitrary element type, arbitrary Int priorities; the FIFO theorems are
  instantiated at the segment capacities regenerated from /repo on every run.
-/
namespace VarmqVerif.Props.C04
open VarmqVerif

def initCap : Nat := (Generated.const "queues.initialBufferCapacity").toNat
def maxCap : Nat := (Generated.const "queues.chunkMaxCapacity").toNat

theorem caps_ok : 1 ≤ initCap ∧ 1 ≤ maxCap := by decide

/-- the segmented FIFO of the current tree is observationally a plain list queue, for every
    sequence of enqueue/dequeue/len/values/purge/close, whatever segment boundaries it crosses -/
theorem fifo_refines_list {α : Type} (ops : List (Fifo.Op α)) :
    (Fifo.run (Fifo.init initCap maxCap) ops).2 = (ListQueue.run ListQueue.init ops).2 :=
  Fifo.refines_list caps_ok.1 caps_ok.2 ops

/-- and for every pair of capacities ≥ 1 (a changed constant keeps the property as long as it is ≥ 1) -/
theorem fifo_refines_list_any {α : Type} {ic mc : Nat} (h1 : 1 ≤ ic) (h2 : 1 ≤ mc) (ops : List (Fifo.Op α)) :
    (Fifo.run (Fifo.init ic mc) ops).2 = (ListQueue.run ListQueue.init ops).2 :=
  Fifo.refines_list h1 h2 ops

/-- without a purge, what has been dequeued is a prefix of what was accepted, in acceptance order -/
theorem fifo_order {α : Type} (ops : List (Fifo.Op α)) (hnp : ops.all ListQueue.notPurge = true) :
    ListQueue.accepted ops (Fifo.run (Fifo.init initCap maxCap) ops).2 =
      ListQueue.dequeued (Fifo.run (Fifo.init initCap maxCap) ops).2 ++ Fifo.abs (Fifo.run (Fifo.init initCap maxCap) ops).1 ∧
    ListQueue.dequeued (Fifo.run (Fifo.init initCap maxCap) ops).2 <+: ListQueue.accepted ops (Fifo.run (Fifo.init initCap maxCap) ops).2 :=
  Fifo.fifo_order caps_ok.1 caps_ok.2 ops hnp

/-- with purges: dequeued items are a subsequence of the accepted ones (order never changes) -/
theorem fifo_order_purge {α : Type} (ops : List (Fifo.Op α)) :
    (ListQueue.dequeued (Fifo.run (Fifo.init initCap maxCap) ops).2).Sublist
      (ListQueue.accepted ops (Fifo.run (Fifo.init initCap maxCap) ops).2) :=
  Fifo.fifo_order_purge caps_ok.1 caps_ok.2 ops

/-- the binary heap + insertion counter refines the stable sorted queue -/
theorem pq_refines_sorted {α : Type} (ops : List (PQ.Op α)) :
    PQ.OutsEq (PQ.run PQ.init ops).2 (SortedQueue.run SortedQueue.init ops).2 :=
  PQ.refines_sorted ops

theorem pq_refines_sorted_exact {α : Type} (ops : List (PQ.Op α)) (hv : ∀ op ∈ ops, op ≠ .values) :
    (PQ.run PQ.init ops).2 = (SortedQueue.run SortedQueue.init ops).2 :=
  PQ.refines_sorted_exact ops hv

/-- among equal priorities the queue is FIFO, also after purge and reuse (any state with an empty heap) -/
theorem pq_fifo_same_priority {α : Type} (s : PQ.State α) (h : PQ.Inv s) (hc : s.closed = false) (he : s.items = #[])
    (p : Int) (xs : List α) :
    (PQ.run s (xs.map (.enq · p) ++ List.replicate xs.length .deq)).2 =
      xs.map (fun _ => .bool true) ++ xs.map (fun x => .item (some x)) :=
  PQ.fifo_same_priority s h hc he p xs

/-- `Less` of the current tree is the order the model uses (regenerated guard text) -/
theorem less_is_model_order : Generated.guardsOf "heapQueue.Less" =
    ["if:pq.items[i].Priority==pq.items[j].Priority", "ret:pq.items[i].Index<pq.items[j].Index",
     "ret:pq.items[i].Priority<pq.items[j].Priority"] := Tie.less_guards

example : initCap = 1024 ∧ maxCap = 102400 := by decide

/-! Worker level (model `Disp`: one dispatcher hands jobs out one after the other, pool goroutines start them in any
    order, a job is dequeued only while fewer than the largest limit are in flight — the latter is `Props.C18.busy_le_limit`).
    The hand-out order `deqd` is the order in which the containers above returned the jobs. -/

/-- "with concurrency 1 this is exactly the execution order": as long as the limit never exceeded 1, the sequence of
    worker-function starts is a subsequence of the hand-out order (the jobs missing from it were cancelled or skipped) -/
theorem serial_is_handout_order {s : Disp.State} (h : Disp.Reach s) (hl : s.maxLim ≤ 1) : s.entered.Sublist s.deqd :=
  Disp.serial_is_handout_order h hl

/-- … and when a job starts, every job handed out before it has started or was skipped -/
theorem serial_order {s s' : Disp.State} {j : Nat} (h : Disp.Reach s) (hl : s.maxLim ≤ 1)
    (he : Disp.step s (.enter j) = .ok s') : ∀ i ∈ s.deqd.takeWhile (· != j), i ∈ s.entered ∨ i ∈ s.gone :=
  Disp.serial_order h hl he

/-- "with concurrency n the set of started jobs is a prefix of that order" — up to the jobs that hold one of the other
    n − 1 slots: when job j starts, and at every moment after it, at most n − 1 of the jobs handed out before j are
    still waiting to start (n the largest limit so far) -/
theorem ahead_slack {s s' : Disp.State} {j : Nat} (h : Disp.Reach s) (he : Disp.step s (.enter j) = .ok s') :
    (Disp.waitingAhead s j).length + 1 ≤ s.maxLim := Disp.ahead_slack h he

theorem ahead_slack_stable {s : Disp.State} (h : Disp.Reach s) {j : Nat} (hj : j ∈ s.entered) :
    (Disp.waitingAhead s j).length + 1 ≤ s.maxLim := Disp.ahead_slack_stable h hj

/-! End to end for a standard queue (model `FifoDisp` = Disp composed with the list queue that `fifo_refines_list` proves
    the segmented FIFO to be; submissions accepted at the back, the dispatcher takes the oldest, Purge drops the oldest). -/

/-- "a standard queue hands out jobs in the order their submissions were accepted" -/
theorem handout_is_acceptance_order {s : FifoDisp.State} (h : FifoDisp.Reach s) : s.d.deqd.Sublist s.accepted :=
  FifoDisp.handout_is_acceptance_order h

/-- "with concurrency 1 this is exactly the execution order": worker functions start in acceptance order -/
theorem serial_is_acceptance_order {s : FifoDisp.State} (h : FifoDisp.Reach s) (hl : s.d.maxLim ≤ 1) :
    s.d.entered.Sublist s.accepted := FifoDisp.serial_is_acceptance_order h hl

/-- started jobs were handed out, each starts at most once -/
theorem started_were_handed_out {s : Disp.State} (h : Disp.Reach s) : (∀ j ∈ s.entered, j ∈ s.deqd) ∧ s.entered.Nodup :=
  ⟨Disp.entered_subset_deqd h, Disp.entered_nodup h⟩

end VarmqVerif.Props.C04
