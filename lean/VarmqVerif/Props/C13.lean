import VarmqVerif.Proofs.Ack
import VarmqVerif.Proofs.Sig
/-!
  C13 — distributed consumers drain the shared queue; each item is run by exactly one (partial).
  The `Ack` model does not distinguish consumers: `deq`, `enter`, `exit`, `ack` may come from any
  worker bound to the adapter, so its theorems are statements about k consumers on one adapter.
  Draining is the per-consumer no-lost-wake-up theorem (`Sig`, with the notification handler as one
  more notifier) and is checked end-to-end on explored executions (1..3 consumers, plain/priority,
  items present before binding, announcements while saturated).
-/
namespace VarmqVerif.Props.C13
open VarmqVerif Ack

/-- within one process lifetime an item on the shared adapter is executed by at most one consumer
    (the adapter hands each pending item to one DequeueWithAckId; the library enters the worker
    function once per delivery) -/
theorem executed_by_at_most_one {s : State} (h : Reach s) : s.entered.Nodup := (reach_inv h).entered_nodup

/-- and it is never lost: pending, unacknowledged or acknowledged-and-processed -/
theorem never_lost {s : State} {x : Nat} (h : Reach s) (hx : x ∈ s.accepted) :
    x ∈ s.pending ∨ x ∈ s.unacked ∨ (x ∈ s.acked ∧ x ∈ s.processed) := Ack.held_or_done h hx

/-- an announced item is noticed by a consumer with a free slot (per consumer) -/
theorem announced_is_noticed {s : Sig.State} (h : Sig.Reach s) (hd : Sig.Dispatchable s) :
    s.tok = true ∨ 0 < s.nOwes ∨ s.dph.active = true := Sig.no_lost_wakeup h hd

end VarmqVerif.Props.C13
