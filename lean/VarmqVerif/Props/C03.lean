import VarmqVerif.Proofs.Sig
import VarmqVerif.Proofs.Sig2
import VarmqVerif.Proofs.Res
/-!
  C03 — accepted jobs always make progress: no lost wake-up, stuck job or deadlock.
  Progress is proved in the form "no reachable sleeping state is bad" (DESIGN.md §2.4): together
  with fairness of the Go scheduler (assumed) this gives "eventually".
  Model `Sig`: the signal token, the event loop with its four-load condition, and arbitrary
  goroutines that enqueue, release slots, store status/limit and notify; model `Sig2`: the same across
  Stop / Restart (any number of signal channels and event loops); model `Res` for the slot accounting.
-/
namespace VarmqVerif.Props.C03
open VarmqVerif

/-- whenever the worker is running, a slot is free and a job is pending: a wake-up token is in the
    channel, or some goroutine still owes a notify(), or the event loop is active and will
    evaluate its condition again — for every interleaving of any number of goroutines -/
theorem no_lost_wakeup {s : Sig.State} (h : Sig.Reach s) (hd : Sig.Dispatchable s) :
    s.tok = true ∨ 0 < s.nOwes ∨ s.dph.active = true := Sig.no_lost_wakeup h hd

/-- the owed notify can always be performed (the send on the signal channel never blocks: it is a
    select with default; the ghost counters are consistent) -/
theorem notify_never_blocks {s : Sig.State} {g : Nat} (h : Sig.Reach s) :
    ∃ s', Sig.step s (.notify g (!s.tok)) = .ok s' := Sig.notify_enabled h g

/-- hence: if nobody is going to look any more (no token, nothing owed, event loop parked), then no
    work is dispatchable -/
theorem asleep_not_dispatchable {s : Sig.State} (h : Sig.Reach s) (ha : Sig.Asleep s) : ¬ Sig.Dispatchable s :=
  Sig.asleep_not_dispatchable h ha

/-- … i.e. min(pending + in flight, limit) slots are in use: "min(pending, limit) jobs run together" -/
theorem asleep_min_parallel {s : Sig.State} (h : Sig.Reach s) (ha : Sig.Asleep s) (hr : s.ws = Sig.running) :
    min (s.cur + s.qlen) s.conc ≤ s.cur := Sig.asleep_min_parallel h ha hr

/-- a slot in use is always attached to something that will give it back: a dispatcher inside
    processNextJob, a job handed to a node, an executing worker function or a runner about to
    release — no job sits in Processing without a goroutine -/
theorem slots_accounted {s : Res.State} (h : Res.Reach s) : s.cur = s.nRes + s.nHold + s.handed + s.nExec + s.nDone :=
  Res.acc_inv h

/-- the same across Stop and Restart (model `Sig2`: any number of signal channels and event loops, the
    previous run's event loop possibly still in the middle of an activation, notify() on the nil
    channel of a stopped worker swallowed): dispatchable work is covered by a token on the *current*
    channel, an owed notify(), or an event loop that will evaluate its condition again -/
theorem no_lost_wakeup_across_restarts {s : Sig2.State} (h : Sig2.Reach s) (hd : Sig2.Dispatchable s) :
    Sig2.TokCur s ∨ 0 < s.nOwes ∨ ∃ d, (s.dph d).willEval = true := Sig2.no_lost_wakeup h hd

/-- … and when nothing is owed and no event loop is active, the token lies on an open channel on
    which a live event loop listens -/
theorem token_has_listener {s : Sig2.State} (h : Sig2.Reach s) (h0 : s.nOwes = 0)
    (hq : ∀ d, (s.dph d).willEval = false) (hd : Sig2.Dispatchable s) : Sig2.TokCur s ∧ Sig2.Listening s :=
  Sig2.asleep_not_dispatchable h h0 hq hd

/-- the non-blocking send is always possible, also on the nil channel of a stopped worker -/
theorem notify_never_blocks_across_restarts {s : Sig2.State} (h : Sig2.Reach s) (g : Nat) :
    ∃ s', Sig2.step s (.notify g (match s.chan with | some ch => !s.tok ch | none => false)) = .ok s' :=
  Sig2.notify_enabled h g

end VarmqVerif.Props.C03
