import VarmqVerif.Proofs.Job
import VarmqVerif.Proofs.Pool
import VarmqVerif.Proofs.Sig
import VarmqVerif.Proofs.Disp
import VarmqVerif.Proofs.FifoDisp
/-!
  C01 — every accepted job runs exactly once; rejected or cancelled jobs never run.
  "At most once / never" is proved on model `Job` (the status word with claim()/tryClose() as CAS
  loops; any number of jobs, goroutines, Close callers; any interleaving). "At least once" is progress
  and is assembled from: the queue refinements (an accepted item stays pending until dequeued, C04),
  no lost wake-up (`Sig`, C03), no stranded job on a pool node (`Pool`), all in the form "no bad
  sleeping state"; the composition across the models is by the shared trace replay, not mechanised.
-/
namespace VarmqVerif.Props.C01
open VarmqVerif

/-- a job's worker function is entered at most once, whatever Pause/Resume/Stop/Restart/TunePool,
    Close and Purge calls interleave -/
theorem runs_at_most_once {s : Job.State} {j : Nat} (h : Job.Reach s) : (s.jobs j).entered ≤ 1 := Job.runs_le_one h

/-- it is claimed (dispatched) at most once -/
theorem claimed_at_most_once {s : Job.State} {j : Nat} (h : Job.Reach s) : (s.jobs j).claims ≤ 1 := Job.claims_le_one h

/-- a job closed before it started (rejected submission, Close() == nil, Purge) is never run -/
theorem cancelled_never_runs {s : Job.State} {j : Nat} (h : Job.Reach s) (hc : (s.jobs j).cancelled = true) :
    (s.jobs j).entered = 0 := Job.cancelled_never_runs h hc

/-- a job handed to a pool node is never stranded: a goroutine serves that node and the job
    is in its channel -/
theorem handed_job_has_server {s : Pool.State} {n : Nat} (h : Pool.Reach s) (hl : (s.nodes n).loc = .inflight) :
    (s.nodes n).srvs ≠ [] ∧ ∃ j, (s.nodes n).buf = some (.job j) := Pool.inflight_has_server h hl

/-- whatever sits in a node channel can be received -/
theorem node_message_receivable {s : Pool.State} {n : Nat} {m : Pool.Msg} (h : Pool.Reach s) (hb : (s.nodes n).buf = some m) :
    ∃ r s', Pool.step s (.recv r n m) = .ok s' := Pool.recv_enabled h hb

/-- an idle node is ready for the next hand-over: exactly one goroutine will keep serving it (the servers, less the
    one that a pending stop sentinel ends), and no job is in its channel -/
theorem idle_node_ready {s : Pool.State} {n j : Nat} (h : Pool.Reach s) (hl : (s.nodes n).loc = .idle) :
    Pool.eff (s.nodes n) = 1 ∧ (s.nodes n).buf ≠ some (.job j) := Pool.idle_ready h hl

/-- pending work is not forgotten: see C03.no_lost_wakeup -/
theorem pending_is_noticed {s : Sig.State} (h : Sig.Reach s) (hd : Sig.Dispatchable s) :
    s.tok = true ∨ 0 < s.nOwes ∨ s.dph.active = true := Sig.no_lost_wakeup h hd

/-- inside a standard queue nothing accepted disappears (model `FifoDisp` = the list-queue specification the segmented FIFO refines,
    composed with the dispatcher): every accepted job has been handed to the dispatcher, is still pending, or was removed by a
    Purge — which closes what it removes (C10) -/
theorem accepted_is_somewhere {s : FifoDisp.State} (h : FifoDisp.Reach s) :
    ∀ j ∈ s.accepted, j ∈ s.d.deqd ∨ j ∈ s.pending ∨ j ∈ s.dropped := FifoDisp.accepted_is_somewhere h

/-- … nothing runs that was not accepted, and nothing starts twice -/
theorem started_were_accepted_once {s : FifoDisp.State} (h : FifoDisp.Reach s) :
    (∀ j ∈ s.d.entered, j ∈ s.accepted) ∧ s.d.entered.Nodup :=
  ⟨FifoDisp.started_were_accepted h, Disp.entered_nodup (FifoDisp.disp_reach h)⟩

end VarmqVerif.Props.C01
