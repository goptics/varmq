import VarmqVerif.Proofs.Pool
import VarmqVerif.Proofs.Res
import VarmqVerif.Proofs.Config
import VarmqVerif.Proofs.Trim
import VarmqVerif.Proofs.Reap
import VarmqVerif.Proofs.Cap
/-!
  C18 — pool size tracks configuration; idle workers are trimmed; Stop leaks nothing (partial).
  Proved: per node exactly one goroutine will keep serving it while it is idle/held/in flight and
  none once it is stopped or cached (server accounting), at most two for the moment a stopped node
  is recycled before its old goroutine saw the sentinel; nodes in use are bounded by curProcessing
  ≤ largest limit (Res); the minimum-idle arithmetic; "keeps at least one idle worker while running"
  without an idle expiry (Trim) and with one (Reap: the reaper's passes, per-run stop channel); the
  worker goroutines that exist never exceed the largest limit configured (Cap: workers against slots).
  The goroutine census after Stop and "retires idle workers beyond the minimum once they have been
  idle that long" are evaluated on explored executions by the predicate (exact census from the
  scheduler's registry). Wall-clock "idle that long" is abstracted to tick events.
-/
namespace VarmqVerif.Props.C18
open VarmqVerif

theorem servers_bounded {s : Pool.State} {n : Nat} (h : Pool.Reach s) :
    (s.nodes n).srvs.length ≤ 2 ∧ Pool.eff (s.nodes n) ≤ 1 := Pool.servers_bounded h

theorem idle_node_has_one_server {s : Pool.State} {n j : Nat} (h : Pool.Reach s) (hl : (s.nodes n).loc = .idle) :
    Pool.eff (s.nodes n) = 1 ∧ (s.nodes n).buf ≠ some (.job j) := Pool.idle_ready h hl

theorem idle_list_exact {s : Pool.State} {n : Nat} (h : Pool.Reach s) : n ∈ s.idle ↔ (s.nodes n).loc = .idle := Pool.idle_iff h

theorem busy_le_limit {s : Res.State} (h : Res.Reach s) : s.nExec + s.handed + s.nHold ≤ s.maxConc :=
  Nat.le_trans (Res.executing_le_cur h) (Res.cur_le_maxConc h)

theorem min_idle_ge_one (conc : BitVec 32) (pct : BitVec 8) : 1 ≤ (Config.numMinIdleWorkers conc pct).toNat :=
  Config.min_idle_ge_one conc pct

/-- "keeps at least one idle worker while running" (no idle expiry; model `Trim`: take / create / look-then-keep-or-
    retire / PopBackIfLonger / stopAndRemoveAllWorkers, any number of workers and tuners, any interleaving): a running
    pool in which no worker is out of the idle list has an idle worker -/
theorem idle_worker_kept {s : Trim.State} (h : Trim.Reach false s) (hr : s.running = true) (hq : ∀ g, s.busy g = false) :
    1 ≤ s.idle := Trim.idle_worker_kept h hr hq

/-- … and at every moment it has a worker, idle or out with a job -/
theorem never_empty_handed {s : Trim.State} (h : Trim.Reach false s) (hr : s.running = true) :
    1 ≤ s.idle ∨ ∃ g, s.busy g = true := Trim.never_empty_handed h hr

/-- TunePool's one-step shrink never takes the idle list below the minimum it was given -/
theorem tune_keeps_minimum {s s' : Trim.State} {m : Nat} (h : Trim.step false s (.tune m) = .ok s') :
    m ≤ s'.idle ∧ 1 ≤ s'.idle := Trim.tune_keeps_minimum h

/-- the defect repaired by c42df87, as a theorem: with the two-step shrink (look, then pop) of the earlier code a
    running pool with nobody out and no idle worker is reachable -/
theorem old_shrink_can_empty_the_pool :
    ∃ s, Trim.Reach true s ∧ s.running = true ∧ (∀ g, s.busy g = false) ∧ s.idle = 0 := Trim.old_shrink_can_empty_the_pool

/-- "The worker never keeps more worker goroutines than the largest concurrency configured" (model `Cap`: slots, workers out
    with a job, idle workers, the order node-back-then-slot in the pool goroutine; with and without expiry): the number of worker
    goroutines that exist never exceeds the largest limit so far -/
theorem workers_le_limit {s : Cap.State} (h : Cap.Reach s) : Cap.alive s ≤ s.maxLim := Cap.workers_le_limit h

/-- curProcessing is exactly the slots held by dispatchers + workers with a job + finished workers still holding theirs -/
theorem slots_exact {s : Cap.State} (h : Cap.Reach s) : s.cur = s.hold + s.busy + s.rel := Cap.slots_exact h

/-- a worker is created only while fewer than the largest limit exist -/
theorem create_only_below_limit {s s' : Cap.State} (h : Cap.Reach s) (hc : Cap.step s .create = .ok s') :
    Cap.alive s < s.maxLim := Cap.create_only_below_limit h hc

/-! with an idle-worker expiry (model `Reap`: pool nodes by identity, any number of runs, reaper passes with a snapshot
    split at numMinIdleWorkers() ≥ 1, removal only by the reaper of the current run while its stop channel is open) -/

/-- "keeps at least one idle worker while running": a running pool always has a worker, idle or out with a job -/
theorem reaped_never_empty_handed {s : Reap.State} (h : Reap.Reach false s) (hr : s.running = true) :
    s.idle ≠ [] ∨ s.out ≠ [] := Reap.never_empty_handed h hr

/-- … and an idle one whenever nobody is out: the reaper never takes the last worker -/
theorem reaped_idle_worker_kept {s : Reap.State} (h : Reap.Reach false s) (hr : s.running = true) (hq : s.out = []) :
    1 ≤ s.idle.length := Reap.idle_worker_kept h hr hq

/-- the first numMinIdleWorkers() nodes of the reaper's snapshot survive its pass: each is idle or out with a job -/
theorem reaper_spares_protected {s : Reap.State} {p : Reap.Pass} (h : Reap.Reach false s) (hr : s.running = true)
    (hl : s.live = true) (hp : s.pass = some p) : ∀ x ∈ p.prot, x ∈ s.idle ∨ x ∈ s.out :=
  Reap.reaper_spares_protected h hr hl hp

/-- "retires idle workers beyond the configured minimum": never below it — while a pass of the reaper is under way at
    least as many workers are alive (idle, or out with a job) as the pass protects, and a pass protects the first
    min(numMinIdleWorkers(), length of its snapshot) nodes -/
theorem reaper_keeps_minimum {s : Reap.State} {p : Reap.Pass} (h : Reap.Reach false s) (hr : s.running = true)
    (hl : s.live = true) (hp : s.pass = some p) : p.prot.length ≤ s.idle.length + s.out.length :=
  Reap.reaper_keeps_minimum h hr hl hp

theorem snapshot_protects_min {s s' : Reap.State} {t : Nat} (hl : s.live = true)
    (h : Reap.step false s (.snap s.gen t) = .ok s') : ∃ p, s'.pass = some p ∧ p.prot.length = min t s.idle.length :=
  Reap.snapshot_protects_min hl h

/-- the reaper of a run that has ended removes nothing (the stop-channel check of fix b9eba0f) -/
theorem ended_run_cannot_remove {s : Reap.State} {r n : Nat} {ok : Bool} (hne : r ≠ s.gen ∨ s.live = false) :
    ∀ s', Reap.step false s (.rmv r n ok) ≠ .ok s' := Reap.ended_run_cannot_remove hne

/-- the defect repaired by b9eba0f, as a theorem: without that check the pass of an ended run removes the only idle
    worker of the next run -/
theorem old_reaper_can_empty_the_pool :
    ∃ s, Reap.Reach true s ∧ s.running = true ∧ s.out = [] ∧ s.idle = [] := Reap.old_reaper_can_empty_the_pool

end VarmqVerif.Props.C18
