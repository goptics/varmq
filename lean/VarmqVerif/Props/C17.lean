import VarmqVerif.Proofs.Fifo
import VarmqVerif.Proofs.Res
import VarmqVerif.Proofs.Manager
import VarmqVerif.Proofs.Metr
import VarmqVerif.Props.C04
import VarmqVerif.Tie.Facts
/-!
  C17 — pending/processing counts and metrics stay in bounds and are exact at rest.
  Proved here: the length a FIFO queue reports is exactly its number of pending items (at the
  regenerated capacities; for the priority queue `Len` is one of the outputs `C04.pq_refines_sorted`
  compares with the sorted list's), hence never negative and never above the number of
  accepted submissions; NumProcessing never exceeds the largest limit; the worker's NumPending is the
  sum over its registered queues and every bind path registers exactly once; the metrics counters
  (model `Metr`: any number of goroutines entering/leaving worker functions, counting them successful
  or failed and then completed, submitters counting accepted submissions) are ordered at every moment
  and exact at rest, and every read returns the counter's value. That the real increments happen in
  the places and order `Metr.step` accepts is checked by replaying every explored execution.
-/
namespace VarmqVerif.Props.C17
open VarmqVerif

/-- FIFO: under the representation invariant (which every reachable state satisfies) Len is the
    number of pending items; it is read under the queue lock (`Tie.fifo_len_skeleton`) -/
theorem fifo_len_exact {α : Type} (ops : List (Fifo.Op α)) :
    (Fifo.step (Fifo.run (Fifo.init C04.initCap C04.maxCap) ops).1 .len).2 =
      .nat (Fifo.abs (Fifo.run (Fifo.init C04.initCap C04.maxCap) ops).1).length :=
  Fifo.len_exact (Fifo.run_inv (Fifo.inv_init C04.caps_ok.1 C04.caps_ok.2) ops)

/-- what has been dequeued is a subsequence of what was accepted; it stays one with the pending items appended
    (`Fifo.run_account`, through which the proof goes), so pending items never exceed the accepted submissions -/
theorem fifo_pending_le_accepted {α : Type} (ops : List (Fifo.Op α)) :
    (ListQueue.dequeued (Fifo.run (Fifo.init C04.initCap C04.maxCap) ops).2).Sublist
      (ListQueue.accepted ops (Fifo.run (Fifo.init C04.initCap C04.maxCap) ops).2) :=
  Fifo.fifo_order_purge C04.caps_ok.1 C04.caps_ok.2 ops

/-- NumProcessing() (a load of curProcessing) never exceeds the largest concurrency limit -/
theorem processing_le_limit {s s' : Res.State} {g v : Nat} (h : Res.Reach s) (hst : Res.step s (.ldCurAny g v) = .ok s') :
    v ≤ s.maxConc := Res.read_cur_le_maxConc h hst

/-- the worker's NumPending is the plain sum of its queues' lengths -/
theorem worker_pending_is_sum (lens : List Int) : Manager.total lens = lens.sum := Manager.total_eq_sum lens

/-- every bind path registers its queue exactly once, so no queue is counted twice -/
theorem registered_once : Generated.registerCalls.all (fun p => p.2 == 1) = true := Tie.register_once

/-- the FIFO length is read inside the queue's read lock in the current tree: the skeleton lists calls in source
    order; `RUnlock` is deferred (queue.go), so the two loads are inside the lock -/
theorem len_under_lock : Generated.skeletonOf "Queue.Len" =
    ["mutex:q.mx:RLock", "mutex:q.mx:RUnlock", "atomic:q.writeCount:Load", "atomic:q.readCount:Load"] := Tie.fifo_len_skeleton

/-- at every moment: Completed ≤ Successful + Failed ≤ finished invocations ≤ started invocations,
    Failed ≤ failed-or-panicked invocations, Successful ≤ successful invocations, Submitted ≤ accepted -/
theorem metrics_ordered (s : Metr.State) (h : Metr.Reach s) :
    s.comp ≤ s.succ + s.fail ∧ s.succ + s.fail ≤ s.exited ∧ s.exited ≤ s.entered ∧ s.fail ≤ s.exitedBad ∧
    s.succ + s.exitedBad ≤ s.exited + s.fail ∧ s.sub ≤ s.accepted := Metr.ordering s h

/-- at rest (nobody between the entry of a worker function and incCompleted, nobody owing an
    incSubmitted): Completed = Successful + Failed = finished invocations, Failed = failed-or-panicked
    invocations, Submitted = accepted submissions -/
theorem metrics_exact_at_rest (s : Metr.State) (h : Metr.Reach s) (hr : Metr.AtRest s) :
    s.comp = s.succ + s.fail ∧ s.succ + s.fail = s.exited ∧ s.exited = s.entered ∧ s.fail = s.exitedBad ∧ s.sub = s.accepted :=
  Metr.at_rest_exact s h hr

/-- a read of a counter returns its value and changes nothing; counters never decrease -/
theorem metrics_read_exact (s s' : Metr.State) (c : Metr.Ctr) (v : Nat) (h : Metr.step s (.ld c v) = .ok s') :
    v = s.ctr c ∧ s' = s := Metr.read_exact s s' c v h
theorem metrics_monotone (s s' : Metr.State) (e : Metr.Ev) (h : Metr.step s e = .ok s') :
    s.sub ≤ s'.sub ∧ s.comp ≤ s'.comp ∧ s.succ ≤ s'.succ ∧ s.fail ≤ s'.fail := Metr.counters_monotone s s' e h

end VarmqVerif.Props.C17
