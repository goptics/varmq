import VarmqVerif.Proofs.LifeC
import VarmqVerif.Proofs.Sig2
import VarmqVerif.Tie.Facts
/-!
  C14 — lifecycle calls follow the documented state machine for every call sequence.
  `LifeC` transcribes the lifecycle functions of worker.go at call granularity (calls are serialised
  by w.lifecycle — model `Res` checks on every replayed trace that each status store happens under
  that lock and inside a call that may make it); `Spec.Life.step` is the documented machine (the
  same definition the executable predicate `Spec.C14.check` compares the real code against).
-/
namespace VarmqVerif.Props.C14
open VarmqVerif LifeC

/-- for every sequence of calls, context cancellations and listener firings (any length, any
    interleaving) the errors returned and the Status reported are exactly those of the documented
    machine -/
theorem lifecycle_refines {hc : Bool} {c : Nat} {evs : List Ev} {s : State} {os : List (Option (Err × WStatus))}
    (h : run (init hc c) evs = some (s, os)) :
    ∃ revs r, revs.length = evs.length ∧ rrun (rinit c) revs = some (r, os) ∧ Rel s r := LifeC.lifecycle_refines h

theorem restart_leaves_running {s s' : State} {o : Option (Err × WStatus)} (h : step s (.call .restart) = some (s', o)) :
    s'.ws = .running ∧ o = some (.none, .running) := LifeC.restart_leaves_running h

theorem bind_preserves_state {s s' : State} {o : Option (Err × WStatus)} (hn : s.ws ≠ .initiated)
    (h : step s (.call .bind) = some (s', o)) : s'.ws = s.ws := LifeC.bind_preserves_state hn h

theorem stale_listener_inert {s s' : State} {k : Nat} {o : Option (Err × WStatus)} (hk : k ≠ s.run)
    (h : step s (.fire k) = some (s', o)) : s'.ws = s.ws ∧ s'.conc = s.conc ∧ s'.run = s.run ∧ o = none :=
  LifeC.stale_listener_inert hk h

/-- cancelling the configured context stops the worker: the current run's listener exists, is
    enabled, and its firing stops it -/
theorem ctx_cancel_can_stop {s : State} (hi : Inv s) (hc : s.hasCtx = true) (hx : s.cfgCancelled = true)
    (hw : s.ws = .running ∨ s.ws = .paused) : ∃ s', step s (.fire s.run) = some (s', none) ∧ s'.ws = .stopped :=
  LifeC.ctx_cancel_can_stop hi hc hx hw

/-- the status strings of the current tree -/
theorem worker_status_strings : Generated.workerStatusStrings = [(0, "Initiated"), (1, "Running"), (2, "Paused"), (3, "Stopped")] :=
  Tie.worker_status_strings

/-- "never Running while unable to process": at the granularity of the signal channel and the event
    loops (model `Sig2`, any number of Stop/Restart cycles and goroutines), whenever the status is
    Running the worker's current signal channel is open and an event loop that has not ended listens
    on it -/
theorem running_has_event_loop {s : Sig2.State} (h : Sig2.Reach s) (hw : s.ws = Sig2.running) : Sig2.Listening s :=
  Sig2.running_listening h hw

/-- a closed signal channel is never the worker's current one -/
theorem closed_channel_not_current {s : Sig2.State} (h : Sig2.Reach s) {ch : Nat} (hc : s.chan = some ch) :
    s.closed ch = false := Sig2.closed_never_current h hc

end VarmqVerif.Props.C14
