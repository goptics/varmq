import VarmqVerif.Proofs.Job
/-!
  C10 — cancel, purge and queue-close take effect, exclude execution, never crash.
-/
namespace VarmqVerif.Props.C10
open VarmqVerif Job

/-- Close() == nil before the job started ⇒ it is never executed -/
theorem close_before_start_excludes_run {s : State} {j : Nat} (h : Reach s) (hc : (s.jobs j).cancelled = true) :
    (s.jobs j).entered = 0 := Job.cancelled_never_runs h hc

/-- at most one caller ever succeeds in closing a job (so at most one Done, one acknowledgement, one stream close) -/
theorem single_closer {s : State} {j : Nat} (h : Reach s) : (s.jobs j).closes ≤ 1 := Job.closes_le_one h

/-- while the worker function runs the status is Processing, so Close returns ErrJobProcessing and
    changes nothing (tryClose returns before its CAS) -/
theorem processing_while_running {s : State} {j : Nat} (h : Reach s) (hr : (s.jobs j).exited < (s.jobs j).entered) :
    (s.jobs j).st = processing := Job.processing_while_running h hr

/-- Closed is final: a second Close sees Closed (ErrJobAlreadyClosed) -/
theorem closed_is_final {s s' : State} {j : Nat} {e : Ev} (h : Reach s) (hc : (s.jobs j).st = closed)
    (hst : step s e = .ok s') : (s'.jobs j).st = closed := Job.closed_is_final h hc hst

/-- no interleaving of Close / Purge / dispatch / completion panics -/
theorem no_crash {s : State} (h : Reach s) : s.crashed = false := Job.no_crash h

end VarmqVerif.Props.C10
