import VarmqVerif.Proofs.Res
/-!
  C09 — a paused or stopped worker starts nothing.
  Model `Res` (Model/Res.lean): every atomic operation on status / curProcessing / concurrency, the
  lifecycle lock, job hand-over, worker-function entry/exit and API call/return are events; any
  number of goroutines, dispatcher loops, barrier callers and jobs; any interleaving.
  `frozen` is the ghost flag "a PauseAndWait/Stop/WaitAndStop has returned nil, no Resume/Restart/
  Bind call was in progress during it, and none has been called since"; `budget` the ghost counter
  set when a plain Pause returns.
-/
namespace VarmqVerif.Props.C09
open VarmqVerif Res

/-- after PauseAndWait / Stop / WaitAndStop returned nil, no worker function can be entered until a
    Resume / Restart / Bind is called -/
theorem no_start_after_barrier {s : State} (h : Reach s) (hf : s.frozen = true) :
    ∀ g k, ∃ m, step s (.enter g k) = .error m := no_start_when_frozen h hf

/-- in such a state nothing is dispatched, handed over, executing or finishing -/
theorem frozen_is_quiet {s : State} (h : Reach s) (hf : s.frozen = true) : Quiet s := frozen_quiet h hf

/-- a stopped worker holds no dispatched job at all -/
theorem stopped_is_quiet {s : State} (h : Reach s) (hs : s.ws = stopped) : Quiet s := stopped_quiet h hs

/-- after a plain Pause returned: at most `b` jobs — those already past reserve() — may still start … -/
theorem pause_budget {s : State} {b : Nat} (h : Reach s) (hb : s.budget = some b) :
    isQuietStatus s.ws = true ∧ s.nHold + s.handed ≤ b := budget_bound h hb

/-- … none once the budget is used up … -/
theorem no_start_after_budget {s : State} (h : Reach s) (hb : s.budget = some 0) :
    ∀ g k, ∃ m, step s (.enter g k) = .error m := no_start_when_budget_zero h hb

/-- … and the budget is at most the largest concurrency limit -/
theorem pause_budget_le_limit {s s' : State} {g b : Nat} (h : Reach s) (hst : step s (.ret g .pause true) = .ok s')
    (hb : s'.budget = some b) (h0 : s.budget = none) : b ≤ s.maxConc := budget_le_maxConc h hst hb h0

end VarmqVerif.Props.C09
