import VarmqVerif.Proofs.Job
/-!
  C05 — job and batch handles complete exactly when the work has finished (safety half proved;
  "they do return" is progress: the wait-group counter reaches zero exactly when the single closer
  has run, see `batch_wg_exact`; exact hang detection on explored executions covers the rest).
-/
namespace VarmqVerif.Props.C05
open VarmqVerif Job

/-- Wait on a single job returns only when the job is Closed and its worker function is not running
    (it returned, or the job never started) -/
theorem wait_returns_closed {s s' : State} {g j : Nat} (h : Reach s) (hst : step s (.wgWait g j) = .ok s')
    (hb : (s.jobs j).batch = none) : (s.jobs j).st = closed ∧ (s.jobs j).exited = (s.jobs j).entered :=
  Job.wait_returns_closed h hst hb

/-- Wait on a batch returns only when every one of its `size` items exists and is Closed -/
theorem batch_wait_all_closed {s s' : State} {g b : Nat} (h : Reach s) (hst : step s (.wgWaitB g b) = .ok s') :
    (∀ j ∈ (s.batches b).items, (s.jobs j).st = closed) ∧ (s.batches b).items.length = (s.batches b).size ∧
    (s.batches b).count = 0 := Job.batch_wait_all_closed h hst

/-- Closed means not running -/
theorem closed_not_running {s : State} {j : Nat} (h : Reach s) (hc : (s.jobs j).st = closed) :
    (s.jobs j).exited = (s.jobs j).entered := Job.closed_not_running h hc

/-- the wait-group counter never goes negative, no channel is closed twice or sent on after close -/
theorem no_crash {s : State} (h : Reach s) : s.crashed = false := Job.no_crash h

/-- the batch wait group equals the counter plus the number of goroutines that still owe it a wg.Done -/
theorem batch_wg_exact {s : State} {b : Nat} (h : Reach s) :
    ∃ L : List Nat, L.Nodup ∧ (∀ g, g ∈ L ↔ (s.loc g).owesWg = some b) ∧ (s.batches b).wg = (s.batches b).count + L.length :=
  Job.batch_wg_exact h

end VarmqVerif.Props.C05
